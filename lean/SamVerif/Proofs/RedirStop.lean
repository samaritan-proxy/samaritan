import SamVerif.Model.RedirStop
import SamVerif.Proofs.Lts
namespace SamVerif.RedirStop

theorem isRun : Lts.IsRun step run := ⟨fun _ => rfl, fun s l ls => by rw [run]; cases step s l <;> rfl⟩

/-- Serve has closed the quit of every connection it is past: of the first from `waitFirst` on, of both from
`waitSecond` on. -/
def Inv (s : S) : Prop :=
  ((s.pc = .waitFirst ∨ s.pc = .closeSecond ∨ s.pc = .waitSecond ∨ s.pc = .returned) → (if s.aFirst then s.aQuit = true else s.bQuit = true)) ∧
  ((s.pc = .waitSecond ∨ s.pc = .returned) → s.aQuit = true ∧ s.bQuit = true)

theorem stopping_stays (s : S) (l : Label) (s' : S) (hc : s.pc ≠ .running) (hs : step s l = some s') :
    s'.pc ≠ .running := by
  revert hs; fun_cases step s l <;> rintro ⟨⟩ <;> first | exact hc | (split <;> nofun) | nofun

theorem step_decreases (s : S) (l : Label) (s' : S) (hs : step s l = some s') : mu s' < mu s := by
  -- `split`: the new state of `reply` has an `if` on `held`, that of `close` is an `if` on `aFirst`
  revert hs; fun_cases step s l <;> rintro ⟨⟩ <;> (try split) <;>
    simp only [mu, *, Nat.add_lt_add_iff_left, Nat.add_lt_add_iff_right] <;> simp [pcRank.eq_def, *] <;> omega

/-- `Inv` with both repairs in place, and: Serve goes on to the second connection, and returns, only when the loops of the
one in hand have ended; they do not start again. -/
structure Repaired (s : S) : Prop where
  inv : Inv s
  abort : s.abort = true
  turnAbort : s.turnAbort = true
  firstGone : (s.pc = .closeSecond ∨ s.pc = .waitSecond ∨ s.pc = .returned) → (if s.aFirst then s.rd = .exited else s.bLoops = false)
  gone : s.pc = .returned → s.rd = .exited ∧ s.bLoops = false

theorem repaired_step (s : S) (l : Label) (s' : S) (h : Repaired s) (hs : step s l = some s') : Repaired s' := by
  cases h
  revert hs; fun_cases step s l <;> rintro ⟨⟩ <;> grind [Repaired, Inv]

theorem reader_moves (s : S) (ha : s.abort = true) (hta : s.turnAbort = true) (hq : s.aQuit = true) (hrd : s.rd ≠ .exited) :
    ∃ l, (step s l).isSome = true := by
  cases h : s.rd with
  | reading => exact ⟨.readerExits, by simp [step.eq_def, h, hq]⟩
  | queuing => exact ⟨.queueGivesUp, by simp [step.eq_def, h, hq, ha, hta]⟩
  | sending => exact ⟨.aborted, by simp [step.eq_def, h, hq, ha]⟩
  | exited => exact absurd h hrd

/-- with `abort`, a Stop that has begun and not returned can always take a step -/
theorem progress (s : S) (h : Inv s) (ha : s.abort = true) (hta : s.turnAbort = true) (hp : s.pc ≠ .running) (hr : s.pc ≠ .returned) :
    ∃ l, (step s l).isSome = true := by
  obtain ⟨h1, h2⟩ := h
  cases hpc : s.pc with
  | running => exact absurd hpc hp
  | returned => exact absurd hpc hr
  | closeFirst | closeSecond => exact ⟨.close, by simp [step.eq_def, hpc]⟩
  | waitFirst =>
    have hq := h1 (Or.inl hpc)
    cases haf : s.aFirst with
    | true =>
      by_cases hrd : s.rd = .exited
      · exact ⟨.waited, by simp [step.eq_def, hpc, haf, hrd]⟩
      · exact reader_moves s ha hta (by simpa [haf] using hq) hrd
    | false =>
      cases hb : s.bLoops with
      | true => exact ⟨.bExits, by simpa [step.eq_def, hb, haf] using hq⟩
      | false => exact ⟨.waited, by simp [step.eq_def, hpc, haf, hb]⟩
  | waitSecond =>
    obtain ⟨hqa, hqb⟩ := h2 (Or.inl hpc)
    cases haf : s.aFirst with
    | true =>
      cases hb : s.bLoops with
      | true => exact ⟨.bExits, by simp [step.eq_def, hb, hqb]⟩
      | false => exact ⟨.waited, by simp [step.eq_def, hpc, haf, hb]⟩
    | false =>
      by_cases hrd : s.rd = .exited
      · exact ⟨.waited, by simp [step.eq_def, hpc, haf, hrd]⟩
      · exact reader_moves s ha hta hqa hrd

end SamVerif.RedirStop
