import SamVerif.Model.Listener
import SamVerif.Proofs.Lts
namespace SamVerif.Listener

theorem isRun : Lts.IsRun step run := ⟨fun _ => rfl, fun s l ls => by rw [run]; cases step s l <;> rfl⟩

/-- What the positions of Serve, Stop and Drain say about the flags: the first six clauses relate Serve's position to what
Serve writes, the next three do so for Stop and Drain, the last five are what Stop and Drain know of Serve.
`lnClosedByStop`, `lnClosedByDrain` are the repair F-09b: a published listener that is still open after quit (drain) was
closed is one that Stop (StopListen) has yet to close — `publish` checks quit and drain again under the lock, and `stopTake`
records in `sawLn` whether the listener was published. -/
structure Inv (s : L) : Prop where
  openWhen : s.lnOpen = true → (s.serve = .bound ∨ s.serve = .serving)
  pubThen : s.lnPublished = true → (s.serve = .serving ∨ s.serve = .waitConns ∨ s.serve = .returned)
  servingPub : (s.serve = .serving ∨ s.serve = .waitConns) → s.lnPublished = true
  startedIff : s.started = true ↔ s.serve ≠ .notCalled
  doneIff : s.done = true ↔ s.serve = .returned
  noHandlers : (s.serve ≠ .serving ∧ s.serve ≠ .waitConns) → s.handlers = []
  quitSet : s.stopPc ≠ .idle → s.quit = true
  regGone : (s.reg = none) ↔ (s.stopPc ≠ .idle ∧ s.stopPc ≠ .quitClosed)
  drainSet : s.drainPc ≠ .idle → s.drain = true
  lnClosedByStop : s.quit = true → s.lnPublished = true → s.lnOpen = true →
      (s.stopPc = .quitClosed ∨ (s.stopPc = .regTaken ∧ s.sawLn = true))
  lnClosedByDrain : s.drain = true → s.lnPublished = true → s.lnOpen = true → s.drainPc = .drainClosed
  sawNotStarted : (s.stopPc ≠ .idle ∧ s.stopPc ≠ .quitClosed) → s.sawStarted = false →
      (s.serve = .notCalled ∨ s.serve = .entered ∨ s.serve = .returned)
  sawStarted : s.sawStarted = true → s.started = true
  stopRet : s.stopPc = .returned → (s.sawStarted = false ∨ s.done = true)

theorem inv_init (limit : Nat) : Inv { limit := limit } := by
  constructor <;> simp

-- the attribute: `handlerExit` maps over the registry, and `regGone` asks whether it is `none`
attribute [local grind =] Option.map_eq_none_iff in
theorem inv_step (s : L) (l : Label) (s' : L) (hi : Inv s) (hs : step s l = some s') : Inv s' := by
  cases hi
  revert hs; fun_cases step s l <;> rintro ⟨⟩ <;> grind [Inv]

/-- Once Stop is past closing the listener, or StopListen has finished, the accept loop finds the listener closed. -/
theorem Inv.lnClosed {s : L} (hi : Inv s) (hv : s.serve = .serving)
    (h : (s.quit = true ∧ s.stopPc ≠ .quitClosed ∧ s.stopPc ≠ .regTaken) ∨ (s.drain = true ∧ s.drainPc ≠ .drainClosed)) :
    s.lnOpen = false := by
  cases ho : s.lnOpen with
  | false => rfl
  | true =>
    have hp := hi.servingPub (Or.inl hv)
    rcases h with ⟨hq, h1, h2⟩ | ⟨hd, h1⟩
    · rcases hi.lnClosedByStop hq hp ho with hx | hx
      · exact absurd hx h1
      · exact absurd hx.1 h2
    · exact absurd (hi.lnClosedByDrain hd hp ho) h1

theorem Inv.no_accept {s : L} (hi : Inv s)
    (h : (s.quit = true ∧ s.stopPc ≠ .quitClosed ∧ s.stopPc ≠ .regTaken) ∨ (s.drain = true ∧ s.drainPc ≠ .drainClosed)) :
    step s .accept = none :=
  if_neg fun ⟨hv, ho⟩ => by simp [hi.lnClosed hv h] at ho

/-- every registered handler's connection is still in the registry, or closed, or among the connections Stop has taken
and is about to close -/
def Tracked (s : L) : Prop :=
  ∀ id, (id, true) ∈ s.handlers →
    (∃ r, s.reg = some r ∧ id ∈ r) ∨ id ∈ s.closed ∨ ((s.stopPc = .regTaken ∨ s.stopPc = .lnClosed) ∧ id ∈ s.taken)

theorem tracked_step (s : L) (l : Label) (s' : L) (hi : Tracked s) (hs : step s l = some s') : Tracked s' := by
  revert hs; fun_cases step s l <;> rintro ⟨⟩ <;> first | exact hi | grind [Tracked]

theorem length_map_erase_le (r : Option (List Nat)) (a : Nat) :
    ((r.map (·.erase a)).getD []).length ≤ (r.getD []).length := by
  cases r with
  | none => exact Nat.le_refl _
  | some r => exact List.length_erase_le

def Bounded (limit : Nat) (s : L) : Prop := s.limit = limit ∧ (0 < limit → registered s ≤ limit)

theorem bounded_step (limit : Nat) (s : L) (l : Label) (s' : L) (hi : Bounded limit s) (hs : step s l = some s') :
    Bounded limit s' := by
  unfold Bounded registered at *
  revert hs; fun_cases step s l <;> rintro ⟨⟩ <;>
    first
    | exact hi
    | grind [limitHit]  -- handlerAdd; stopTake, which empties the registry
    | exact ⟨hi.1, fun h => Nat.le_trans (length_map_erase_le s.reg _) (hi.2 h)⟩  -- handlerExit; last, being slow to fail on the other goals

end SamVerif.Listener
