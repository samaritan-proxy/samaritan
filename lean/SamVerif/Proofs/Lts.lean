/-! Labelled transition systems with a partial step function: what holds of every `run`, stated once.  A model's own `run`
is plugged in through `IsRun`. -/
namespace SamVerif.Lts
variable {S L : Type} {step : S → L → Option S} {run : S → List L → Option S}

/-- `run` folds `step` over a list of labels and fails where a step is not enabled.  Every model defines its own `run` by
this recursion, with a `match` of its own in place of `bind`, so `cons` is not `rfl`:
`⟨fun _ => rfl, fun s l ls => by rw [run]; cases step s l <;> rfl⟩`. -/
structure IsRun (step : S → L → Option S) (run : S → List L → Option S) : Prop where
  nil : ∀ s, run s [] = some s
  cons : ∀ s l ls, run s (l :: ls) = (step s l).bind (run · ls)

/-- Where some step in `A` is enabled unless `Done`, a state with no enabled step in `A` is `Done`. -/
theorem done_of_stuck {A : L → Prop} {Done : Prop} [Decidable Done] {s : S}
    (hprog : ¬ Done → ∃ l, A l ∧ (step s l).isSome = true) (hstuck : ∀ l, A l → step s l = none) : Done :=
  Decidable.byContradiction fun hn => by
    obtain ⟨l, hl, hen⟩ := hprog hn
    rw [hstuck l hl] at hen; cases hen

namespace IsRun
variable (h : IsRun step run)
include h

theorem append (s : S) (a b : List L) : run s (a ++ b) = (run s a).bind (run · b) := by
  induction a generalizing s with
  | nil => rw [h.nil]; rfl
  | cons l a ih =>
    rw [List.cons_append, h.cons, h.cons]
    cases step s l with
    | none => rfl
    | some s1 => exact ih s1

theorem snoc {s s1 s2 : S} {ls : List L} {l : L} (hr : run s ls = some s1) (hs : step s1 l = some s2) :
    run s (ls ++ [l]) = some s2 := by
  rw [h.append, hr, Option.bind_some, h.cons, hs, Option.bind_some, h.nil]

theorem invOn {A : L → Prop} {P : S → Prop} (hstep : ∀ s l s', A l → P s → step s l = some s' → P s')
    {s s' : S} {ls : List L} (hA : ∀ l ∈ ls, A l) (hp : P s) (hr : run s ls = some s') : P s' := by
  induction ls generalizing s with
  | nil => rw [h.nil] at hr; cases hr; exact hp
  | cons l ls ih =>
    rw [h.cons] at hr
    obtain ⟨s1, hs, hr⟩ := Option.bind_eq_some_iff.mp hr
    exact ih (fun x hx => hA x (List.mem_cons_of_mem _ hx)) (hstep s l s1 (hA l List.mem_cons_self) hp hs) hr

theorem inv {P : S → Prop} (hstep : ∀ s l s', P s → step s l = some s' → P s')
    {s s' : S} {ls : List L} (hp : P s) (hr : run s ls = some s') : P s' :=
  h.invOn (A := fun _ => True) (fun s l s' _ => hstep s l s') (fun _ _ => trivial) hp hr

theorem total {P : S → Prop} (hstep : ∀ s l, P s → ∃ s', step s l = some s' ∧ P s')
    (ls : List L) {s : S} (hp : P s) : ∃ s', run s ls = some s' ∧ P s' := by
  induction ls generalizing s with
  | nil => exact ⟨s, h.nil s, hp⟩
  | cons l ls ih =>
    obtain ⟨s1, hs, hp1⟩ := hstep s l hp
    rw [h.cons, hs]
    exact ih hp1

/-- `I` is kept by every step; where `I` holds, a step with a label in `A` keeps `C` and lowers `μ`: a run of such labels
from a state with `I` and `C` ends in one, and is no longer than `μ` falls. -/
theorem bounded {A : L → Prop} {I C : S → Prop} {μ : S → Nat}
    (hinv : ∀ s l s', I s → step s l = some s' → I s')
    (hstep : ∀ s l s', A l → I s → C s → step s l = some s' → C s' ∧ μ s' < μ s)
    {s s' : S} {ls : List L} (hA : ∀ l ∈ ls, A l) (hi : I s) (hc : C s) (hr : run s ls = some s') :
    I s' ∧ C s' ∧ μ s' + ls.length ≤ μ s := by
  induction ls generalizing s with
  | nil => rw [h.nil] at hr; cases hr; exact ⟨hi, hc, Nat.le_refl _⟩
  | cons l ls ih =>
    rw [h.cons] at hr
    obtain ⟨s1, hs, hr⟩ := Option.bind_eq_some_iff.mp hr
    have h1 := hstep s l s1 (hA l List.mem_cons_self) hi hc hs
    have h2 := ih (fun x hx => hA x (List.mem_cons_of_mem _ hx)) (hinv s l s1 hi hs) h1.1 hr
    exact ⟨h2.1, h2.2.1, by rw [List.length_cons]; omega⟩

/-- **Winding down.**  Moreover a state with `I` and `C` that is not `Done` has an enabled step in `A`: then every schedule
of `A`-steps from such a state has at most `μ` steps, and one that cannot be continued has ended in a `Done` state. -/
theorem completes {A : L → Prop} {I C Done : S → Prop} [∀ s, Decidable (Done s)] {μ : S → Nat}
    (hinv : ∀ s l s', I s → step s l = some s' → I s')
    (hstep : ∀ s l s', A l → I s → C s → step s l = some s' → C s' ∧ μ s' < μ s)
    (hprog : ∀ s, I s → C s → ¬ Done s → ∃ l, A l ∧ (step s l).isSome = true)
    {s s' : S} {ls : List L} (hA : ∀ l ∈ ls, A l) (hi : I s) (hc : C s) (hr : run s ls = some s') :
    ls.length ≤ μ s ∧ I s' ∧ C s' ∧ ((∀ l, A l → step s' l = none) → Done s') := by
  obtain ⟨hi', hc', hm⟩ := h.bounded hinv hstep hA hi hc hr
  exact ⟨by omega, hi', hc', done_of_stuck (hprog s' hi' hc')⟩

theorem completes_any {I C Done : S → Prop} [∀ s, Decidable (Done s)] {μ : S → Nat}
    (hinv : ∀ s l s', I s → step s l = some s' → I s')
    (hstep : ∀ s l s', I s → C s → step s l = some s' → C s' ∧ μ s' < μ s)
    (hprog : ∀ s, I s → C s → ¬ Done s → ∃ l, (step s l).isSome = true)
    {s s' : S} {ls : List L} (hi : I s) (hc : C s) (hr : run s ls = some s') :
    ls.length ≤ μ s ∧ I s' ∧ C s' ∧ ((∀ l, step s' l = none) → Done s') := by
  obtain ⟨hm, hi', hc', hd⟩ := h.completes (A := fun _ => True) hinv (fun s l s' _ => hstep s l s')
    (fun s hi hc hn => (hprog s hi hc hn).imp fun _ h => ⟨trivial, h⟩) (fun _ _ => trivial) hi hc hr
  exact ⟨hm, hi', hc', fun hstuck => hd fun l _ => hstuck l⟩

end IsRun

end SamVerif.Lts
