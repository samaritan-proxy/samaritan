/-
C15, concurrency: a health mark is two steps (flag CAS outside the lock, map update under it).
Every state of an interleaving of such marks with additions, removals and replacements is, up to
the flags of marks in flight, the state of a history of atomic operations (`Ghost`).  The two are
compared on the fields that no flag reaches (`core`); the healthy maps then agree because both are
`Good` for the ghost's flags (`Ghost.eq`).
-/
import SamVerif.Proofs.HostSet
import SamVerif.Proofs.Lts
namespace SamVerif.HostSet
open SamVerif.Proofs.HostSet SamVerif.Props.C15

theorem isRun : Lts.IsRun cstep crun := ⟨fun _ => rfl, fun c op ops => by rw [crun]; cases cstep c op <;> rfl⟩

def withFlag (a : State) (f : Nat → Bool) : State := { a with flag := f }

theorem removeOne_withFlag (a : State) (f : Nat → Bool) (o : Obj) :
    removeOne (withFlag a f) o = withFlag (removeOne a o) f := rfl

theorem stored_withFlag (a : State) (f : Nat → Bool) : stored (withFlag a f) = stored a := rfl

theorem withFlag_withFlag (a : State) (f g : Nat → Bool) : withFlag (withFlag a g) f = withFlag a f := rfl

theorem removeOne_flag (s : State) (o : Obj) : (removeOne s o).flag = s.flag := rfl

theorem mark_flag (s : State) (o : Obj) (p : Bool) : (mark s o p).1.flag = upd s.flag o.id p := by
  rw [mark_split]; split
  · rename_i h; rw [← h, upd_eq]
  · rfl

/-- what neither a flag nor a healthy map has a part in -/
def core (s : State) : (Nat → Option Nat) × (Nat → Option (Nat × Bool)) × (Nat → Bool) × List Nat :=
  (s.all, s.reg, s.removed, s.dom)

variable {attr : Nat → Nat × Bool} {a s : State} {o : Obj}

theorem core_eq (h : core a = core s) : ∃ f m n, a = { s with flag := f, hMain := m, hBackup := n } := by
  cases a; cases s; cases h; exact ⟨_, _, _, rfl⟩

/-! `removeOne` and `addOne` read (through `storedTier`) and write, among the `core` fields, only `core` fields: from states
that agree there both take the same branch and agree there again. -/

theorem removeOne_core (h : core a = core s) (o : Obj) : core (removeOne a o) = core (removeOne s o) := by
  obtain ⟨f, m, n, rfl⟩ := core_eq h; rfl

theorem addOne_core (h : core a = core s) (o : Obj) : core (addOne a o) = core (addOne s o) := by
  obtain ⟨f, m, n, rfl⟩ := core_eq h
  unfold addOne
  rw [apply_ite core, apply_ite core]; rfl

theorem mark_core (s : State) (o : Obj) (p : Bool) : core (mark s o p).1 = core s := by
  unfold mark; split <;> rfl

def Reach (attr : Nat → Nat × Bool) (a : State) : Prop :=
  ∃ aops : List Op, (∀ op ∈ aops, ∀ o ∈ objsOf op, WF attr o) ∧ a = run init aops

theorem Reach.next (h : Reach attr a) (op : Op) (hw : ∀ o ∈ objsOf op, WF attr o) : Reach attr (step a op) := by
  obtain ⟨aops, hW, rfl⟩ := h
  refine ⟨aops ++ [op], fun op' h' => ?_, by unfold run; rw [List.foldl_append]; rfl⟩
  rcases List.mem_append.mp h' with h' | h'
  · exact hW _ h'
  · rw [List.mem_singleton.mp h']; exact hw

theorem Reach.one (h : Reach attr a) (op : Obj → Op) (ho : objsOf (op o) = [o]) (hw : WF attr o) :
    Reach attr (step a (op o)) :=
  h.next _ fun _ hx => List.mem_singleton.mp (ho ▸ hx) ▸ hw

theorem Reach.good (h : Reach attr a) : Good attr a.flag a := by
  obtain ⟨aops, hW, rfl⟩ := h; exact good_run aops hW

/-- the ghost `a` of `s`: the state of an atomic history with the same membership, registry, latches and addresses,
for whose flags the maps of `s` are right, and whose flags are those of `s` except for marks in flight -/
structure Ghost (attr : Nat → Nat × Bool) (pend : Nat → Bool) (s a : State) : Prop where
  reach : Reach attr a
  core : core a = core s
  good : Good attr a.flag s
  agree : ∀ i, pend i = false → a.flag i = s.flag i

variable {pend : Nat → Bool}

/-- the maps of `s` are the ghost's: both are those that `Good` prescribes for the ghost's flags -/
theorem Ghost.eq (hg : Ghost attr pend s a) : s = withFlag a s.flag := by
  obtain ⟨f, m, n, rfl⟩ := core_eq hg.core
  have ht := fun b => funext fun x => (hg.good.tier b x).trans (hg.reach.good.tier b x).symm
  exact state_ext rfl ht rfl rfl rfl rfl

theorem ghost_removeOne (hg : ∃ a, Ghost attr pend s a) (hw : WF attr o) : ∃ a, Ghost attr pend (removeOne s o) a :=
  let ⟨_, hg⟩ := hg
  ⟨_, hg.reach.one (.remove [·]) rfl hw, removeOne_core hg.core o, good_removeOne hg.good hw, hg.agree⟩

/-- One host of `Set.add` under marks in flight: the ghost takes the mark of `o` first, with the flag that the add
reads (where the add writes nothing, with its own), then adds the host. -/
theorem ghost_addOne (hg : ∃ a, Ghost attr pend s a) (hw : WF attr o) : ∃ a, Ghost attr pend (addOne s o) a := by
  obtain ⟨a, hg⟩ := hg
  let q := if s.all o.addr = some o.id ∧ s.flag o.id = false then a.flag o.id else s.flag o.id
  have hf : (addOne (mark a o q).1 o).flag = upd a.flag o.id q := (addOne_flag ..).trans (mark_flag ..)
  refine ⟨addOne (mark a o q).1 o, (hg.reach.one (.mark · q) rfl hw).one (.add [·]) rfl hw,
    addOne_core ((mark_core a o q).trans hg.core) o,
    good_addOne hg.good hw (fun i hi => by rw [hf, upd_ne _ _ hi]) (by rw [hf, upd_same]), fun i hi => ?_⟩
  rw [hf, addOne_flag]
  by_cases e : i = o.id
  · subst e; rw [upd_same]; exact ite_eq_right_iff.mpr fun _ => hg.agree _ hi
  · rw [upd_ne _ _ e]; exact hg.agree i hi

theorem ghost_cas (hg : Ghost attr pend s a) (p : Bool) : Ghost attr (upd pend o.id true) (markCas s o p) a := by
  -- `markCas` writes the flag only, which `Good … a.flag` does not read
  refine ⟨hg.reach, hg.core, ⟨hg.good.tier, hg.good.mem⟩, fun i hi => ?_⟩
  have e : i ≠ o.id := fun e => by rw [e, upd_same] at hi; cases hi
  rw [upd_ne _ _ e] at hi
  exact (hg.agree i hi).trans (upd_ne _ _ e).symm

theorem ghost_apply (hg : Ghost attr pend s a) (hw : WF attr o) :
    Ghost attr (upd pend o.id false) (markApply s o (s.flag o.id)).1 (mark a o (s.flag o.id)).1 := by
  have hf := mark_flag a o (s.flag o.id)
  refine ⟨hg.reach.one (.mark · _) rfl hw, (mark_core ..).trans hg.core,
    good_markApply hg.good hw (fun i hi => by rw [hf, upd_ne _ _ hi]) _ (by rw [hf, upd_same]), fun i hi => ?_⟩
  rw [hf]
  by_cases e : i = o.id
  · rw [e, upd_same]; rfl
  · rw [upd_ne _ _ e] at hi ⊢; exact hg.agree i hi

theorem ghost_init : Ghost attr (fun _ => false) init init :=
  ⟨⟨[], fun _ h => (List.not_mem_nil h).elim, rfl⟩, rfl, good_init, fun _ _ => rfl⟩

theorem ghost_step (c : CS) (op : COp) (c' : CS) (hw : ∀ o ∈ op.objs, WF attr o) (hg : ∃ a, Ghost attr c.pend c.st a)
    (hs : cstep c op = some c') : ∃ a, Ghost attr c'.pend c'.st a := by
  obtain ⟨hadd, hrem, hrep⟩ := setOps_preserve (P := fun s => ∃ a, Ghost attr c.pend s a) (fun _ _ => ghost_addOne)
    (fun _ _ => ghost_removeOne) (fun _ h => h.elim fun _ h => h.good.stored_wf) hg (os := op.objs) hw
  obtain ⟨a, hg⟩ := hg
  revert hs
  fun_cases cstep c op <;> rintro ⟨⟩
  · exact hadd
  · exact hrem
  · exact hrep
  · exact ⟨a, ghost_cas hg _⟩
  · exact ⟨_, ghost_apply hg (hw _ (List.mem_singleton.mpr rfl))⟩

theorem ghost_reach {ops : List COp} {c : CS} (hw : ∀ op ∈ ops, ∀ o ∈ op.objs, WF attr o)
    (h : crun { st := init } ops = some c) : ∃ a, Ghost attr c.pend c.st a :=
  isRun.invOn (P := fun c => ∃ a, Ghost attr c.pend c.st a) ghost_step hw ⟨_, ghost_init⟩ h

end SamVerif.HostSet
