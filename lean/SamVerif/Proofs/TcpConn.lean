import SamVerif.Model.TcpConn
import SamVerif.Proofs.Lts
namespace SamVerif.TcpConn

theorem isRun : Lts.IsRun step run := ⟨fun _ => rfl, fun s l ls => by rw [run]; cases step s l <;> rfl⟩

/-- The watcher exists from the start of the relay on (`armedOnly`, `started`) and closes both sockets when it fires
(`fired`); the backend socket is opened by the dial (`notYet`), both are closed by the return (`closed`); the copy loops run
only while relaying (`loops`); `counted` is IncConnCount/DecConnCount around the relay. -/
structure Inv (t : T) : Prop where
  counted : t.count = (if t.phase = .relaying then 1 else 0)
  fired : t.phase = .relaying → t.watcher = .gone → t.cOpen = false ∧ t.sOpen = false
  armedOnly : t.phase = .selecting → t.watcher = .none
  started : t.phase = .relaying → t.watcher ≠ .none
  notYet : t.phase = .selecting → t.sOpen = false
  closed : t.phase = .returned → t.cOpen = false ∧ t.sOpen = false
  loops : t.phase ≠ .relaying → t.c2s = false ∧ t.s2c = false

theorem inv_init : Inv {} := by constructor <;> simp

theorem inv_step (t : T) (l : Label) (t' : T) (hi : Inv t) (hs : step t l = some t') : Inv t' := by
  cases hi
  revert hs; fun_cases step t l <;> rintro ⟨⟩ <;> grind [Inv]

theorem Inv.returned {t : T} (hi : Inv t) (hp : t.phase = .returned) : t.cOpen = false ∧ t.sOpen = false ∧ t.count = 0 :=
  ⟨(hi.closed hp).1, (hi.closed hp).2, by rw [hi.counted, hp]; rfl⟩

theorem inv_reach {ls : List Label} {t : T} (h : run {} ls = some t) : Inv t := isRun.inv inv_step inv_init h

def b2n (b : Bool) : Nat := if b then 1 else 0

def mu (t : T) : Nat :=
  (if t.watcher = .armed then 1 else 0) + b2n t.c2s + b2n t.s2c + (if t.phase = .relaying then 1 else 0)

/-- an established connection whose host is gone (or whose processor stops) -/
def Doomed (t : T) : Prop := t.phase ≠ .selecting ∧ (t.latch = true ∨ t.quit = true)

theorem doomed_stays (t : T) (l : Label) (t' : T) (hd : Doomed t) (hs : step t l = some t') : Doomed t' := by
  unfold Doomed at *
  revert hs; fun_cases step t l <;> rintro ⟨⟩ <;> first | exact hd | simp [*]

theorem internal_decreases (t : T) (l : Label) (t' : T) (hl : internal l = true) (hs : step t l = some t') :
    mu t' < mu t := by
  -- one `⟨⟩` is for `hl`: it closes the cases of the labels that are not internal
  revert hs hl; fun_cases step t l <;> rintro ⟨⟩ ⟨⟩ <;> simp [mu, b2n, *]

/-- once the host is removed (or the processor stops), an established connection that has not been
wound up has an enabled internal step -/
theorem progress (t : T) (hi : Inv t) (he : t.phase ≠ .selecting) (hg : t.latch = true ∨ t.quit = true)
    (hn : ¬ (t.phase = .returned ∧ t.watcher ≠ .armed)) : ∃ l, internal l = true ∧ (step t l).isSome = true := by
  cases hp : t.phase with
  | selecting => exact absurd hp he
  | returned =>
    have hw : t.watcher = .armed := Decidable.byContradiction fun h => hn ⟨hp, h⟩
    exact ⟨.watcherExit, rfl, by simp [step.eq_def, hw, hp]⟩
  | relaying =>
    cases hw : t.watcher with
    | none => exact absurd hw (hi.started hp)
    | armed => exact ⟨.watcherFire, rfl, by simp only [step.eq_def]; rw [if_pos ⟨hw, hg⟩]; rfl⟩
    | gone =>
      have hc := hi.fired hp hw
      cases hc2s : t.c2s with
      | true => exact ⟨.loopBreaks true, rfl, by simp [step.eq_def, hp, hc2s, hc.1]⟩
      | false =>
        cases hs2c : t.s2c with
        | true => exact ⟨.loopBreaks false, rfl, by simp [step.eq_def, hp, hs2c, hc.1]⟩
        | false => exact ⟨.ret, rfl, by simp [step.eq_def, hp, hc2s, hs2c]⟩

theorem run_append (t : T) (a b : List Label) : run t (a ++ b) = (run t a).bind fun t1 => run t1 b :=
  isRun.append t a b

end SamVerif.TcpConn
