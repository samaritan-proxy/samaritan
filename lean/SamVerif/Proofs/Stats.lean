import SamVerif.Model.Stats
/-!
Both transition systems of C20 keep books of the same form,
total = settled + in flight: `Cx.Bal` for connections (with the gauge), `Tri.balance` for requests.
Each obeys the same two rules: one more is counted (`open`, `count`), and `m` of the `m + n` in flight
are settled (`close`, `settle`).

`cstep` is a composition of six moves (`Moves`): whatever these keep, every history keeps.  The
conservation invariant, the connection limit and "stopped stays stopped" are three instances.
-/
namespace SamVerif.Stats

theorem wsum_takeKey {α} (f : α → Nat) (id : Nat) (l : List (Nat × α)) (a : α) (l' : List (Nat × α))
    (h : takeKey id l = some (a, l')) : wsum f l = f a + wsum f l' := by
  fun_induction takeKey id l generalizing a l'
  · cases h
  · cases h; rfl
  · next ih => cases h; rw [wsum, ih _ _ ‹_›]; exact Nat.add_left_comm ..
  · cases h

theorem wsum_bump (id : Nat) (l : List (Nat × Nat)) : wsum (fun h => h) (bump id l) = wsum (fun h => h) l + 1 := by
  fun_induction bump id l
  · rfl
  · exact Nat.add_right_comm ..
  · next ih => rw [wsum, ih]; rfl

theorem wsum_one_eq_length {α} (l : List (Nat × α)) : wsum (fun _ => 1) l = l.length := by
  induction l with
  | nil => rfl
  | cons _ l ih => simp only [wsum, ih]; exact Nat.add_comm ..

/-- a property of the connection state that every move of a counter keeps; `cstep` makes only these moves -/
structure Moves (P : CState → Prop) : Prop where
  note : ∀ s a b, P s → P { s with restricted := a, connFail := b }
  reg : ∀ s r id, s.reg = some r → limitHit s.limit r.length = false → P s →
    P { s with reg := some (id :: r), ds := s.ds.open }
  unreg : ∀ s r id, s.reg = some r → id ∈ r → P s → P { s with reg := some (r.erase id), ds := s.ds.close }
  clear : ∀ s r, s.reg = some r → P s → P { s with reg := none, ds := s.ds.close r.length }
  up : ∀ s id, P s → P { s with us := s.us.open, ups := id :: s.ups }
  down : ∀ s id, id ∈ s.ups → P s → P { s with ups := s.ups.erase id, us := s.us.close }

variable {P : CState → Prop}

theorem Moves.removeConn (m : Moves P) (s : CState) (id : Nat) (h : P s) : P (removeConn s id) := by
  fun_cases Stats.removeConn s id
  · exact h
  · exact m.unreg s _ id ‹_› ‹_› h
  · exact h

theorem Moves.step (m : Moves P) (s : CState) (e : CEv) (h : P s) : P (cstep s e) := by
  have reg := fun r id hr hl => m.reg s r id hr (Bool.eq_false_iff.mpr hl) h
  fun_cases cstep s e
  · exact h                                                       -- accept after Stop
  · exact m.note s _ _ h                                          -- over the limit
  · exact m.removeConn _ _ (reg _ _ ‹_› ‹_›)                      -- no healthy host
  · exact m.removeConn _ _ (m.note _ _ _ (reg _ _ ‹_› ‹_›))       -- the dial fails
  · exact m.up _ _ (reg _ _ ‹_› ‹_›)
  · next id _ =>                                                  -- finish
    refine m.removeConn _ _ ?_
    show P (if _ then _ else _)
    split
    · exact m.down s id ‹_› h
    · exact h
  · exact h                                                       -- stop after Stop
  · exact m.clear s _ ‹_› h                                       -- stop
  · exact h                                                       -- drain

theorem Moves.run (m : Moves P) (evs : List CEv) (s : CState) (h : P s) : P (crun s evs) :=
  List.foldlRecOn (motive := P) evs cstep h fun s hs e _ => m.step s e hs

def Cx.Bal (c : Cx) (n : Nat) : Prop := c.total = c.destroyed + n ∧ c.active = (n : Int)

-- `d + (n + 1)` and `((n + 1 : Nat) : Int)` unfold to `d + n + 1` and `(n : Int) + 1`: add one on both sides
theorem Cx.Bal.open {c : Cx} {n : Nat} (h : c.Bal n) : c.open.Bal (n + 1) :=
  ⟨congrArg (· + 1) h.1, congrArg (· + 1) h.2⟩

theorem Cx.Bal.close {c : Cx} {m n : Nat} (h : c.Bal (m + n)) : (c.close m).Bal n :=
  ⟨h.1.trans (Nat.add_assoc ..).symm, by
    show c.active - m = n
    rw [h.2, Int.natCast_add, Int.add_comm, Int.add_sub_cancel]⟩

theorem Cx.Bal.erase {c : Cx} {l : List Nat} {a : Nat} (h : c.Bal l.length) (ha : a ∈ l) :
    c.close.Bal (l.erase a).length := by
  refine Cx.Bal.close (m := 1) ?_
  rwa [List.length_erase_of_mem ha, Nat.add_comm, Nat.sub_add_cancel (List.length_pos_of_mem ha)]

structure CInv (s : CState) : Prop where
  ds : s.ds.Bal (regSize s)
  us : s.us.Bal s.ups.length

theorem cinv_init (limit : Nat) : CInv (cinit limit) := ⟨⟨rfl, rfl⟩, ⟨rfl, rfl⟩⟩

theorem regSize_of {s : CState} {r : List Nat} (h : s.reg = some r) : regSize s = r.length := by
  rw [regSize, h]; rfl

theorem cinv_moves : Moves CInv where
  note _ _ _ h := ⟨h.ds, h.us⟩
  reg _ _ _ hr _ h := ⟨(regSize_of hr ▸ h.ds).open, h.us⟩
  unreg _ _ _ hr hm h := ⟨(regSize_of hr ▸ h.ds).erase hm, h.us⟩
  clear _ _ hr h := ⟨(regSize_of hr ▸ h.ds).close (n := 0), h.us⟩
  up _ _ h := ⟨h.ds, h.us.open⟩
  down _ _ hm h := ⟨h.ds, h.us.erase hm⟩

def LInv (L : Nat) (s : CState) : Prop := s.limit = L ∧ regSize s ≤ L

theorem limitHit_eq_false {limit n : Nat} : limitHit limit n = false ↔ (limit ≠ 0 → n < limit) := by
  simp [limitHit]

theorem linv_moves {L : Nat} (hL : 0 < L) : Moves (LInv L) where
  note _ _ _ h := h
  reg _ _ _ _ hl h := ⟨h.1, h.1 ▸ limitHit_eq_false.mp hl (h.1 ▸ Nat.ne_of_gt hL)⟩
  unreg _ _ _ hr _ h := ⟨h.1, Nat.le_trans (List.length_erase_le ..) (regSize_of hr ▸ h.2)⟩
  clear _ _ _ h := ⟨h.1, Nat.zero_le _⟩
  up _ _ h := h
  down _ _ _ h := h

theorem stopped_moves : Moves (fun s => s.reg = none) where
  note _ _ _ h := h
  reg _ _ _ hr _ h := by simp [h] at hr
  unreg _ _ _ hr _ h := by simp [h] at hr
  clear _ _ _ _ := rfl
  up _ _ h := h
  down _ _ _ h := h

theorem Tri.balance.count {t : Tri} {n : Nat} (h : t.balance n) :
    Tri.balance { t with total := t.total + 1 } (n + 1) :=
  congrArg (· + 1) h

theorem Tri.settle_total (t : Tri) (err : Bool) (m : Nat) : (t.settle err m).total = t.total := by
  cases err <;> rfl

theorem Tri.settle_sum (t : Tri) (err : Bool) (m : Nat) :
    (t.settle err m).ok + (t.settle err m).bad = t.ok + t.bad + m := by
  cases err
  · exact Nat.add_right_comm ..
  · exact (Nat.add_assoc ..).symm

theorem Tri.balance.settle {t : Tri} {n m : Nat} (h : t.balance (m + n)) (err : Bool) :
    (t.settle err m).balance n :=
  (t.settle_total err m).trans (h.trans (by rw [Tri.settle_sum]; exact (Nat.add_assoc ..).symm))

structure RInv (s : RState) : Prop where
  ds : s.ds.balance s.raws.length
  us : s.us.balance (wsum (fun h => h) s.sims)
  cmd : ∀ c, (s.cmd c).balance (wsum (cmdWeight c) s.raws)

theorem rinv_init : RInv {} := ⟨rfl, rfl, fun _ => rfl⟩

theorem rinv_step (s : RState) (e : REv) (h : RInv s) : RInv (rstep s e) := by
  fun_cases rstep s e
  · next id cmd =>                                                -- rawNew
    refine ⟨h.ds.count, h.us, fun c => ?_⟩
    have hc := h.cmd c
    cases cmd with
    | none => simpa [wsum, cmdWeight] using hc
    | some k =>
      simp only [wsum, cmdWeight, updCmd]
      by_cases hk : c = k
      · subst hk; simpa [Nat.add_comm] using hc.count
      · simpa [hk, Ne.symm hk] using hc
  · exact h                                                       -- rawDone of an unknown id
  · next id err cmd raws' ht =>                                   -- rawDone
    have hl := wsum_takeKey (fun _ => 1) id _ _ _ ht
    rw [wsum_one_eq_length, wsum_one_eq_length] at hl
    refine ⟨(hl ▸ h.ds).settle err, h.us, fun c => ?_⟩
    have hc := wsum_takeKey (cmdWeight c) id _ _ _ ht ▸ h.cmd c
    cases cmd with
    | none => simpa [cmdWeight] using hc
    | some k =>
      simp only [cmdWeight, updCmd] at hc ⊢
      by_cases hk : c = k
      · subst hk; simp only [if_true] at hc ⊢; exact hc.settle err
      · simpa [hk, Ne.symm hk] using hc
  · exact ⟨h.ds, wsum_bump _ s.sims ▸ h.us.count, h.cmd⟩          -- simSend
  · exact h                                                       -- simDone of an unknown id
  · exact ⟨h.ds, (wsum_takeKey _ _ _ _ _ ‹_› ▸ h.us).settle _, h.cmd⟩
  · exact ⟨h.ds, h.us, h.cmd⟩                                     -- moved

theorem rinv_run (evs : List REv) (s : RState) (h : RInv s) : RInv (rrun s evs) :=
  List.foldlRecOn (motive := RInv) evs rstep h fun s hs e _ => rinv_step s e hs

end SamVerif.Stats
