import SamVerif.Model.Compose
import SamVerif.Proofs.Session
/-! The composed system of C01 projects onto each downstream connection as a stuttering simulation (`sess_step`), and
on each backend connection the replies meet the requests in wire order (`WOk`); `PInv` ties the ghost logs to both. -/
namespace SamVerif.Compose
open SamVerif.Session

theorem isRun : Lts.IsRun step run := ⟨fun _ => rfl, fun s l ls => by rw [run]; cases step s l <;> rfl⟩

@[simp] theorem setSess_sess (s : Sys) (c : Nat) (x : Sess) (i : Nat) : (setSess s c x).sess i = if i = c then x else s.sess i := rfl
@[simp] theorem setWire_wires (s : Sys) (w : Nat) (x : WireC) (v : Nat) : (setWire s w x).wires v = if v = w then x else s.wires v := rfl

theorem setSess_step {s : Sys} {c' : Nat} {l : Label} {x : Sess} (hx : Session.step (s.sess c') l = some x) (c : Nat) :
    (setSess s c' x).sess c = s.sess c ∨ ∃ sl, Session.step (s.sess c) sl = some ((setSess s c' x).sess c) := by
  rw [setSess_sess]
  split
  · subst c; exact .inr ⟨_, hx⟩
  · exact .inl rfl

theorem sess_step {s s' : Sys} {l : CLabel} (h : step s l = some s') (c : Nat) :
    s'.sess c = s.sess c ∨ ∃ sl, Session.step (s.sess c) sl = some (s'.sess c) := by
  revert h
  fun_cases step s l <;> intro h <;> injection h <;> subst_vars  -- not `rintro ⟨⟩`: it fails on the `let s1` of `pair`
  case case2 hx | case8 hx | case12 hx =>  -- `sess`, `pair _ true`, `answer`: the three that set a connection
    exact setSess_step hx c
  all_goals exact .inl rfl

/-- every connection of the composed system is in a state that `Session.run` reaches on its own -/
def Reach (cap : Nat) (s : Sys) : Prop := ∀ c, ∃ ls, Session.run { cap := cap } ls = some (s.sess c)

theorem reach_run {cap : Nat} {ls : List CLabel} {s : Sys} (h : run (init cap) ls = some s) : Reach cap s :=
  isRun.inv (P := Reach cap) (fun _ _ _ hp hs c => by
    obtain ⟨own, ho⟩ := hp c
    rcases sess_step hs c with e | ⟨sl, e⟩
    · exact ⟨own, e ▸ ho⟩
    · exact ⟨own ++ [sl], Session.isRun.snoc ho e⟩) (fun _ => ⟨[], rfl⟩) h

/-- a backend connection: the requests encoded and not yet answered are those in the sent queue and in the writer's hand, in order -/
structure WOk (x : WireC) : Prop where
  drop : x.wire.drop x.replies = x.sent ++ x.inHand.toList
  le : x.replies ≤ x.wire.length

theorem WOk.encode {x : WireC} (h : WOk x) (hi : x.inHand = none) (r : Rid) :
    WOk { x with wire := x.wire ++ [r], inHand := some r } := by
  have := h.drop
  rw [hi, Option.toList_none, List.append_nil] at this
  exact ⟨by show List.drop _ (_ ++ _) = _; rw [List.drop_append_of_le_length h.le, this]; rfl,
    by show _ ≤ List.length (_ ++ _); rw [List.length_append]; exact Nat.le_add_right_of_le h.le⟩

theorem WOk.handoff {x : WireC} (h : WOk x) {r : Rid} (hi : x.inHand = some r) :
    WOk { x with inHand := none, sent := x.sent ++ [r] } :=
  ⟨by have := h.drop; rw [hi] at this; simpa using this, h.le⟩

theorem WOk.pop {x : WireC} (h : WOk x) {r : Rid} {rest : List Rid} (hs : x.sent = r :: rest) :
    x.wire[x.replies]? = some r ∧ WOk { x with sent := rest, replies := x.replies + 1 } := by
  have h1 := h.drop
  rw [hs] at h1
  have hget : x.wire[x.replies]? = some r := by rw [← List.head?_drop, h1]; rfl
  exact ⟨hget, by show List.drop (x.replies + 1) x.wire = _; rw [← List.tail_drop, h1]; rfl,
    (List.getElem?_eq_some_iff.mp hget).1⟩

/-- `results` and `locals` are logs that `pair _ true` and `answer` write when they complete a request.  `res`: an entry
`(r, (w, j))` points at the place where that very request was encoded on connection `w` (`WOk.pop` gives the position when
the entry is written; a wire only grows).  `done`: nothing is completed without an entry, since `completed` grows in those
two steps only (`completed_of_step`). -/
structure PInv (s : Sys) : Prop where
  wire : ∀ w, WOk (s.wires w)
  res : ∀ r w j, (r, (w, j)) ∈ s.results → (s.wires w).wire[j]? = some r
  done : ∀ c k, k ∈ (s.sess c).completed → (∃ w j, ((c, k), (w, j)) ∈ s.results) ∨ (c, k) ∈ s.locals

theorem completed_of_step {a b : Sess} {l : Label} (h : Session.step a l = some b) {k : Nat} (hk : k ∈ b.completed) :
    k ∈ a.completed ∨ l = .complete k := by
  revert h
  fun_cases Session.step a l <;> intro h <;> injection h <;> subst_vars
  case case6 =>  -- `complete`
    exact (List.mem_append.mp hk).imp_right fun h => by cases List.mem_singleton.mp h; rfl
  all_goals exact .inl hk

theorem PInv.setWire {s : Sys} (hi : PInv s) {w : Nat} {x : WireC} (hx : WOk x)
    (hw : ∀ (j : Nat) (r : Rid), (s.wires w).wire[j]? = some r → x.wire[j]? = some r) : PInv (setWire s w x) := by
  refine ⟨fun v => ?_, fun r v j hr => ?_, hi.done⟩ <;> rw [setWire_wires] <;> split
  · exact hx
  · exact hi.wire v
  · subst v; exact hw j r (hi.res r _ j hr)
  · exact hi.res r v j hr

theorem PInv.setSess {s : Sys} (hi : PInv s) {c : Nat} {l : Label} {x : Sess} (hx : Session.step (s.sess c) l = some x)
    (hl : ∀ k, l = .complete k → (∃ w j, ((c, k), (w, j)) ∈ s.results) ∨ (c, k) ∈ s.locals) : PInv (setSess s c x) := by
  refine ⟨hi.wire, hi.res, fun c' k hk => ?_⟩
  rw [setSess_sess] at hk; split at hk
  · subst c'; exact (completed_of_step hx hk).elim (hi.done c k) (hl k)
  · exact hi.done c' k hk

theorem PInv.log {s : Sys} (hi : PInv s) {r : Rid} {w j : Nat} (h : (s.wires w).wire[j]? = some r) :
    PInv { s with results := (r, (w, j)) :: s.results } :=
  ⟨hi.wire, fun q v i hq => (List.mem_cons.mp hq).elim (fun e => by cases e; exact h) (hi.res q v i),
    fun c k hk => (hi.done c k hk).imp_left fun ⟨v, i, e⟩ => ⟨v, i, List.mem_cons_of_mem _ e⟩⟩

theorem PInv.local {s : Sys} (hi : PInv s) (r : Rid) : PInv { s with locals := r :: s.locals } :=
  ⟨hi.wire, hi.res, fun c k hk => (hi.done c k hk).imp_right (List.mem_cons_of_mem _)⟩

/-- every step is made of the four updates above; a completing step writes its log entry before the connection moves, which
is what `setSess` asks for -/
theorem pinv_step (s : Sys) (l : CLabel) (s' : Sys) (hi : PInv s) (h : step s l = some s') : PInv s' := by
  revert h
  fun_cases step s l <;> intro h <;> injection h <;> subst_vars
  case case2 hc _ hx =>  -- `sess c l`
    exact hi.setSess hx fun _ e => absurd (e ▸ rfl) hc
  case case4 hh =>  -- `encode`
    exact hi.setWire ((hi.wire _).encode hh.1 _) fun _ _ h =>
      let ⟨hj, _⟩ := List.getElem?_eq_some_iff.mp h; (List.getElem?_append_left hj).trans h
  case case6 hh => exact hi.setWire ((hi.wire _).handoff hh) fun _ _ => id  -- `handoff`
  case case10 hs _ _ => exact hi.setWire ((hi.wire _).pop hs).2 fun _ _ => id  -- `pair _ false`
  case case8 w r _ hs _ _ hx =>  -- `pair _ true`
    obtain ⟨hget, hok⟩ := (hi.wire _).pop hs
    have h1 := (hi.setWire hok fun _ _ => id).log (w := w) (r := r) (by rw [setWire_wires, if_pos rfl]; exact hget)
    exact h1.setSess hx fun _ e => by cases e; exact .inl ⟨_, _, List.mem_cons_self⟩
  case case12 r _ hx =>  -- `answer`
    exact (hi.local r).setSess hx fun _ e => by cases e; exact .inr List.mem_cons_self

theorem pinv_reach {cap : Nat} {ls : List CLabel} {s : Sys} (h : run (init cap) ls = some s) : PInv s :=
  isRun.inv pinv_step
    ⟨fun _ => ⟨rfl, Nat.le_refl _⟩, fun _ _ _ h => by simp [init] at h, fun _ _ h => by simp [init] at h⟩ h

end SamVerif.Compose
