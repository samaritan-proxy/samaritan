import SamVerif.Model.Session
import SamVerif.Proofs.Lts
/-! Both transition systems of `Model/Session` are FIFO pipelines, and each invariant says that the places a request passes
through, concatenated in pipeline order, spell the list of all requests (`line s = range nread`; `paired ++ sent ++ inHand =
wire`): a step moves one request across a `++`. -/
namespace SamVerif.Session

theorem isRun : Lts.IsRun step run := ⟨fun _ => rfl, fun s l ls => by rw [run]; cases step s l <;> rfl⟩
theorem isWRun : Lts.IsRun wstep wrun := ⟨fun _ => rfl, fun s l ls => by rw [wrun]; cases wstep s l <;> rfl⟩

theorem prefix_of_range {a b : List Nat} {n : Nat} (h : a ++ b = List.range n) : a = List.range a.length := by
  have hp : a <+: List.range n := ⟨b, h⟩
  have hl := hp.length_le
  rw [List.length_range] at hl
  rwa [List.prefix_iff_eq_take, List.take_range, Nat.min_eq_left hl] at hp

theorem eq_of_getElem?_range {n j k : Nat} (h : (List.range n)[j]? = some k) : k = j := by
  obtain ⟨_, rfl⟩ := List.getElem?_eq_some_iff.mp h
  exact List.getElem_range _

structure Inv (cap : Nat) (s : Sess) : Prop where
  line : line s = List.range s.nread
  doneWritten : ∀ id ∈ s.written, id ∈ s.completed
  capEq : s.cap = cap

theorem inv_step {cap : Nat} (s : Sess) (l : Label) (s' : Sess) (hi : Inv cap s) (hs : step s l = some s') : Inv cap s' := by
  have hline := hi.line
  revert hs
  fun_cases step s l <;> rintro ⟨⟩
  case case1 h =>  -- `read`
    refine ⟨?_, hi.doneWritten, hi.capEq⟩
    simp only [line, h, Option.toList_none, List.append_nil] at hline
    simp only [line, Option.toList_some, List.range_succ, ← hline]
  case case3 h _ =>  -- `enqueue`
    refine ⟨?_, hi.doneWritten, hi.capEq⟩
    simp only [line, h, Option.toList_some] at hline
    simp only [line, Option.toList_none, List.append_nil, ← hline, List.append_assoc]
  case case6 => exact ⟨hline, fun x hx => List.mem_append_left _ (hi.doneWritten x hx), hi.capEq⟩  -- `complete`
  case case8 hq hw =>  -- `take`
    refine ⟨?_, hi.doneWritten, hi.capEq⟩
    simp only [line, hw, hq, Option.toList_none, List.append_nil] at hline
    simp only [line, Option.toList_some, ← hline, List.append_assoc, List.singleton_append]
  case case10 hw hc =>  -- `write`
    refine ⟨?_, fun x hx => ?_, hi.capEq⟩
    · simp only [line, hw, Option.toList_some] at hline
      simp only [line, Option.toList_none, List.append_nil, ← hline]
    · rcases List.mem_append.mp hx with h | h
      · exact hi.doneWritten x h
      · cases List.mem_singleton.mp h; exact hc

theorem inv_reach {cap : Nat} {ls : List Label} {s : Sess} (h : run { cap := cap } ls = some s) : Inv cap s :=
  isRun.inv inv_step ⟨rfl, fun _ h => (by cases h), rfl⟩ h

structure WInv (w : Wire) : Prop where
  order : w.paired.map (·.1) ++ w.sent ++ w.inHand.toList = w.wire
  index : w.paired.map (·.2) = List.range w.replies

theorem winv_step (w : Wire) (l : WLabel) (w' : Wire) (hi : WInv w) (hs : wstep w l = some w') : WInv w' := by
  have ho := hi.order
  revert hs
  fun_cases wstep w l <;> rintro ⟨⟩
  case case1 h =>  -- `encode`
    refine ⟨?_, hi.index⟩
    simp only [h, Option.toList_none, List.append_nil] at ho
    simp only [Option.toList_some, ← ho]
  case case3 h =>  -- `handoff`
    refine ⟨?_, hi.index⟩
    simp only [h, Option.toList_some] at ho
    simp only [Option.toList_none, List.append_nil, ← ho, List.append_assoc]
  case case5 h =>  -- `pair`
    constructor
    · simp only [h] at ho
      simp only [List.map_append, List.map_cons, List.map_nil, ← ho, List.append_assoc, List.singleton_append]
    · simp only [List.map_append, List.map_cons, List.map_nil, hi.index, List.range_succ]

theorem winv_reach {ls : List WLabel} {w : Wire} (h : wrun {} ls = some w) : WInv w :=
  isWRun.inv winv_step ⟨rfl, rfl⟩ h

end SamVerif.Session
