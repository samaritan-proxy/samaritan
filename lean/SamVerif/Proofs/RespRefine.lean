/-
C10: the chunked reader refines the plain stream.  The decoder is written once over an abstract byte source `Src σ`: if every
primitive of one source simulates that of another under a relation (`Sim`), so does the decoder, at every nesting budget
(`decode_sim`).  bufio.go's Reader over a connection that delivers arbitrary non-empty chunks is so related to the plain stream
of the concatenated chunks (`reader_sim`), each primitive being specified by the prefix of the remaining data that it consumes.
-/
import SamVerif.Proofs.Resp
namespace SamVerif.Resp
open SamVerif.Proofs.Resp (typed decode_succ splitLF_none_append splitLF_some_append splitLF_parts)

section Generic
variable {σ₁ σ₂ : Type}

-- the same outcome from related states: both fail, or both return the same value and related successor states
def OptSim {α : Type} (R : σ₁ → σ₂ → Prop) : Option (α × σ₁) → Option (α × σ₂) → Prop
  | some (x, a), some (y, b) => x = y ∧ R a b
  | none, none => True
  | _, _ => False

-- `readFull` for `n > 0` only: `Reader.readFull 0` fails where the stream returns the empty slice, and the decoder
-- always asks for `k + 2` bytes
structure Sim (S₁ : Src σ₁) (S₂ : Src σ₂) (R : σ₁ → σ₂ → Prop) : Prop where
  peek : ∀ a b, R a b → OptSim R (S₁.peek a) (S₂.peek b)
  readByte : ∀ a b, R a b → OptSim R (S₁.readByte a) (S₂.readByte b)
  readSlice : ∀ a b, R a b → OptSim R (S₁.readSlice a) (S₂.readSlice b)
  readBytes : ∀ a b, R a b → OptSim R (S₁.readBytes a) (S₂.readBytes b)
  readFull : ∀ n, 0 < n → ∀ a b, R a b → OptSim R (S₁.readFull n a) (S₂.readFull n b)

variable {R : σ₁ → σ₂ → Prop}

theorem bind_sim {α β : Type} {x : Option (α × σ₁)} {y : Option (α × σ₂)}
    {f : α × σ₁ → Option (β × σ₁)} {g : α × σ₂ → Option (β × σ₂)}
    (hxy : OptSim R x y) (hfg : ∀ v a b, R a b → OptSim R (f (v, a)) (g (v, b))) :
    OptSim R (x.bind f) (y.bind g) := by
  match x, y, hxy with
  | none, none, _ => trivial
  | some (v, a), some (_, b), ⟨rfl, hr⟩ => exact hfg v a b hr

theorem OptSim.of_some {α : Type} {x : Option (α × σ₁)} {w : α} {b : σ₂} (h : OptSim R x (some (w, b))) :
    ∃ a, x = some (w, a) ∧ R a b := by
  match x, h with
  | some (_, a), ⟨rfl, hr⟩ => exact ⟨a, rfl, hr⟩

theorem ite_sim {α : Type} {c : Prop} [Decidable c] {x x' : Option (α × σ₁)} {y y' : Option (α × σ₂)}
    (h : OptSim R x y) (h' : OptSim R x' y') : OptSim R (if c then x else x') (if c then y else y') := by
  split <;> assumption

theorem none_sim {α : Type} : OptSim (α := α) R none none := trivial

variable {S₁ : Src σ₁} {S₂ : Src σ₂}

/-- a step that does not touch the source (`stripCRLF`, `parseInt64`) -/
theorem opt_sim {α β : Type} (o : Option β) {f : β → Option (α × σ₁)} {g : β → Option (α × σ₂)}
    (h : ∀ v, OptSim R (f v) (g v)) : OptSim R (o.bind f) (o.bind g) := by
  cases o with
  | none => trivial
  | some v => exact h v

theorem decodeInt_sim (h : Sim S₁ S₂ R) (a : σ₁) (b : σ₂) (hr : R a b) :
    OptSim R (decodeInt S₁ a) (decodeInt S₂ b) :=
  bind_sim (h.readSlice a b hr) fun line _ _ hr' =>
    opt_sim (stripCRLF line) fun body => opt_sim (parseInt64 body) fun _ => ⟨rfl, hr'⟩

theorem decodeText_sim (h : Sim S₁ S₂ R) (a : σ₁) (b : σ₂) (hr : R a b) :
    OptSim R (decodeText S₁ a) (decodeText S₂ b) :=
  bind_sim (h.readBytes a b hr) fun line _ _ hr' => opt_sim (stripCRLF line) fun _ => ⟨rfl, hr'⟩

theorem decodeBulk_sim (h : Sim S₁ S₂ R) (a : σ₁) (b : σ₂) (hr : R a b) :
    OptSim R (decodeBulk S₁ a) (decodeBulk S₂ b) :=
  bind_sim (decodeInt_sim h a b hr) fun _ a' b' hr' =>
    ite_sim none_sim <| ite_sim none_sim <| ite_sim ⟨rfl, hr'⟩ <|
      bind_sim (h.readFull _ (Nat.succ_pos _) a' b' hr') fun _ _ _ hr2 => ite_sim none_sim ⟨rfl, hr2⟩

theorem decodeN_sim {dec₁ : σ₁ → Option (Resp × σ₁)} {dec₂ : σ₂ → Option (Resp × σ₂)}
    (hd : ∀ a b, R a b → OptSim R (dec₁ a) (dec₂ b)) :
    ∀ (k : Nat) (a : σ₁) (b : σ₂), R a b → OptSim R (decodeN dec₁ k a) (decodeN dec₂ k b)
  | 0, _, _, hr => ⟨rfl, hr⟩
  | k + 1, a, b, hr =>
    bind_sim (hd a b hr) fun _ a' b' hr' => bind_sim (decodeN_sim hd k a' b' hr') fun _ _ _ hr2 => ⟨rfl, hr2⟩

theorem decodeInline_sim (h : Sim S₁ S₂ R) (a : σ₁) (b : σ₂) (hr : R a b) :
    OptSim R (decodeInline S₁ a) (decodeInline S₂ b) :=
  bind_sim (decodeText_sim h a b hr) fun _ _ _ hr' => ite_sim none_sim ⟨rfl, hr'⟩

theorem typed_sim (h : Sim S₁ S₂ R) {α : Type} {dec₁ : σ₁ → Option (α × σ₁)} {dec₂ : σ₂ → Option (α × σ₂)}
    (hd : ∀ a b, R a b → OptSim R (dec₁ a) (dec₂ b)) (mk : α → Resp) (a : σ₁) (b : σ₂) (hr : R a b) :
    OptSim R (typed S₁ dec₁ mk a) (typed S₂ dec₂ mk b) :=
  bind_sim (h.readByte a b hr) fun _ a2 b2 hr2 => bind_sim (hd a2 b2 hr2) fun _ _ _ hr3 => ⟨rfl, hr3⟩

theorem decode_sim (h : Sim S₁ S₂ R) : ∀ (fuel : Nat) (a : σ₁) (b : σ₂), R a b →
    OptSim R (decode S₁ fuel a) (decode S₂ fuel b)
  | 0, _, _, _ => trivial
  | fuel + 1, a, b, hr => by
    rw [decode_succ, decode_succ]
    exact bind_sim (h.peek a b hr) fun _ a1 b1 hr1 =>
      ite_sim (typed_sim h (decodeInt_sim h) .int a1 b1 hr1) <|
      ite_sim (typed_sim h (decodeText_sim h) .simple a1 b1 hr1) <|
      ite_sim (typed_sim h (decodeText_sim h) .err a1 b1 hr1) <|
      ite_sim (typed_sim h (decodeBulk_sim h) .bulk a1 b1 hr1) <|
      ite_sim
        (bind_sim (h.readByte a1 b1 hr1) fun _ a2 b2 hr2 => bind_sim (decodeInt_sim h a2 b2 hr2) fun n a3 b3 hr3 =>
          ite_sim none_sim <| ite_sim none_sim <| ite_sim ⟨rfl, hr3⟩ <|
            bind_sim (decodeN_sim (decode_sim h fuel) n.toNat a3 b3 hr3) fun _ _ _ hr4 => ⟨rfl, hr4⟩)
        (decodeInline_sim h a1 b1 hr1)
end Generic

open Reader

-- the reader stands for the stream of its window followed by the chunks still to come; `nonempty` and `pos` make a
-- refill with an empty window bring at least one byte, `fits` makes a window of `size` bytes the full one
structure Rel (r : Reader) (s : Stream) : Prop where
  noErr : r.err = false
  size : s.size = r.size
  data : s.data = r.win ++ r.chunks.flatten
  nonempty : ∀ c ∈ r.chunks, c ≠ []
  fits : r.win.length ≤ r.size
  pos : 0 < r.size

variable {r : Reader} {s : Stream}

theorem Rel.init {size : Nat} (hsize : 0 < size) {chunks : List Bytes} (hne : ∀ c ∈ chunks, c ≠ []) :
    Rel ⟨size, [], chunks, false⟩ ⟨size, chunks.flatten⟩ :=
  ⟨rfl, rfl, (List.nil_append _).symm, hne, Nat.zero_le _, hsize⟩

/-- frame: a step that only replaces the window keeps the relation, for the data that the new window stands for -/
theorem Rel.setWin (h : Rel r s) {w d : Bytes} (hw : w.length ≤ r.size) (hd : d = w ++ r.chunks.flatten) :
    Rel { r with win := w } { s with data := d } :=
  ⟨h.noErr, h.size, hd, h.nonempty, hw, h.pos⟩

/-! what is left of the chunks after `k` bytes of the head chunk were taken (the expression in `fill` and `read`) -/

theorem flatten_rest (c : Bytes) (cs : List Bytes) (k : Nat) :
    c.take k ++ (if (c.drop k).isEmpty then cs else c.drop k :: cs).flatten = c ++ cs.flatten := by
  split
  · rename_i he
    conv => rhs; rw [← List.take_append_drop k c, List.isEmpty_iff.mp he, List.append_nil]
  · rw [List.flatten_cons, ← List.append_assoc, List.take_append_drop]

theorem nonempty_rest {c : Bytes} {cs : List Bytes} (k : Nat) (h : ∀ x ∈ c :: cs, x ≠ []) :
    ∀ x ∈ (if (c.drop k).isEmpty then cs else c.drop k :: cs), x ≠ [] := by
  split
  · exact fun x hx => h x (List.mem_cons_of_mem _ hx)
  · rename_i he
    intro x hx
    rcases List.mem_cons.mp hx with rfl | hx
    · exact fun h0 => he (by rw [h0]; rfl)
    · exact h x (List.mem_cons_of_mem _ hx)

theorem fill_cons {c : Bytes} {cs : List Bytes} (he : r.err = false) (hc : r.chunks = c :: cs) :
    fill r = { r with win := r.win ++ c.take (r.size - r.win.length),
                      chunks := if (c.drop (r.size - r.win.length)).isEmpty then cs else c.drop (r.size - r.win.length) :: cs } := by
  simp [Reader.fill, he, hc]

/-- refilling with room in the window: on an error the data ends with the window, otherwise the window grows and the data stays -/
theorem fill_cases (h : Rel r s) (hroom : r.win.length < r.size) :
    ((fill r).err = true → s.data = r.win) ∧
    (¬(fill r).err = true → Rel (fill r) s ∧ r.win.length < (fill r).win.length) := by
  cases hc : r.chunks with
  | nil => exact ⟨fun _ => by rw [h.data, hc]; exact List.append_nil _, fun he => absurd (by simp [Reader.fill, h.noErr, hc]) he⟩
  | cons c cs =>
    have hne := h.nonempty
    rw [hc] at hne
    have hlen : 0 < c.length := List.length_pos_iff.mpr (hne c List.mem_cons_self)
    rw [fill_cons h.noErr hc]
    refine ⟨fun he => absurd (h.noErr ▸ he) nofun, fun _ => ⟨⟨h.noErr, h.size, ?_, nonempty_rest _ hne, ?_, h.pos⟩, ?_⟩⟩
    · show s.data = _
      rw [h.data, hc, List.flatten_cons, List.append_assoc, flatten_rest]
    · rw [List.length_append, List.length_take]
      exact Nat.add_le_of_le_sub' h.fits (Nat.min_le_left _ _)
    · rw [List.length_append, List.length_take]
      exact Nat.lt_add_of_pos_right (Nat.lt_min.mpr ⟨Nat.sub_pos_of_lt hroom, hlen⟩)

theorem peek_win {w : UInt8} {ws : Bytes} (he : r.err = false) (hw : r.win = w :: ws) : peek r = some (w, r) := by
  simp [peek, he, hw]

theorem peek_nil (he : r.err = false) (hw : r.win = []) :
    peek r = if (fill r).err then none else (fill r).win.head?.map fun c => (c, fill r) := by
  simp only [peek, he, hw, Bool.false_eq_true, if_false, List.isEmpty_nil, if_true]
  cases (fill r).win <;> rfl

theorem peek_spec (h : Rel r s) :
    (s.data = [] ∧ peek r = none) ∨ ∃ c ws r1, peek r = some (c, r1) ∧ Rel r1 s ∧ r1.win = c :: ws := by
  cases hw : r.win with
  | cons w ws => exact .inr ⟨w, ws, r, peek_win h.noErr hw, h, hw⟩
  | nil =>
    have hfill := fill_cases h (hw ▸ h.pos)
    rw [peek_nil h.noErr hw]
    split
    · next he => exact .inl ⟨by rw [hfill.1 he, hw], rfl⟩
    · next he =>
      obtain ⟨hf, hgrow⟩ := hfill.2 he
      cases hw' : (fill r).win with
      | nil => rw [hw, hw'] at hgrow; exact absurd hgrow (Nat.lt_irrefl _)
      | cons w ws => exact .inr ⟨w, ws, fill r, rfl, hf, hw'⟩

theorem peek_sim (h : Rel r s) : OptSim Rel (peek r) (streamSrc.peek s) := by
  rcases peek_spec h with ⟨hd, hp⟩ | ⟨c, ws, r1, hp, h2, h3⟩
  · simp only [streamSrc, hd, hp]; trivial
  · simp only [streamSrc, h2.data, h3, hp, List.cons_append]; exact ⟨rfl, h2⟩

theorem readByte_sim (h : Rel r s) : OptSim Rel (readByte r) (streamSrc.readByte s) := by
  rcases peek_spec h with ⟨hd, hp⟩ | ⟨c, ws, r1, hp, h2, h3⟩
  · simp only [streamSrc, readByte, hd, hp]; trivial
  · simp only [streamSrc, readByte, h2.data, h3, hp, List.cons_append]
    have hfits : (c :: ws).length ≤ r1.size := h3 ▸ h2.fits
    exact ⟨rfl, h2.setWin (Nat.le_of_succ_le hfits) rfl⟩

/-- what a result of `ReadSlice` says about the stream `s` that the reader stood for -/
def SliceSpec (s : Stream) : SliceRes → Prop
  | .line l r' => ∃ rest, splitLF s.data = some (l, rest) ∧ l.length ≤ s.size ∧ Rel r' { s with data := rest }
  | .full frag r' => ∃ d, s.data = frag ++ d ∧ splitLF frag = none ∧ frag.length = s.size ∧ Rel r' { s with data := d }
  | .fail => splitLF s.data = none

theorem readSliceAux_spec (fuel : Nat) (r : Reader) (s : Stream) (h : Rel r s) (hf : s.data.length < fuel + r.win.length) :
    SliceSpec s (readSliceAux fuel r) := by
  fun_induction readSliceAux fuel r with
  | case1 r =>  -- no fuel: excluded by `hf`
    rw [h.data, List.length_append, Nat.zero_add] at hf
    exact absurd (Nat.le_add_right _ _) (Nat.not_le_of_lt hf)
  | case2 fuel r l rest hsp =>  -- a line in the window
    have hlen : l.length + rest.length = r.win.length := by rw [← List.length_append, (splitLF_parts hsp).1]
    exact ⟨_, by rw [h.data]; exact splitLF_some_append _ hsp, h.size ▸ Nat.le_trans (hlen ▸ Nat.le_add_right ..) h.fits,
      h.setWin (Nat.le_trans (hlen ▸ Nat.le_add_left ..) h.fits) rfl⟩
  | case3 fuel r hsp hfull =>  -- no LF in a full window
    exact ⟨_, h.data, hsp, h.size ▸ Nat.le_antisymm h.fits hfull, h.setWin (Nat.zero_le _) rfl⟩
  | case4 fuel r hsp hfull r' he =>  -- the refill fails: the data ends with the window
    show splitLF s.data = none
    rw [(fill_cases h (Nat.lt_of_not_le hfull)).1 he]
    exact hsp
  | case5 fuel r hsp hfull r' he ih =>  -- refilled: go on
    obtain ⟨hfr, hgrow⟩ := (fill_cases h (Nat.lt_of_not_le hfull)).2 he
    -- a refill costs one unit of fuel and grows the window, so `hf` is kept
    exact ih hfr (Nat.lt_of_lt_of_le hf (Nat.succ_add .. ▸ Nat.add_le_add_left hgrow fuel))

theorem readSlice'_spec (h : Rel r s) : SliceSpec s (readSlice' r) := by
  have : readSlice' r = readSliceAux (s.data.length + 2) r := by
    simp [readSlice', remaining, h.noErr, h.data, List.length_flatten]
  exact this ▸ readSliceAux_spec _ r s h (Nat.lt_add_right _ (Nat.lt_add_of_pos_right (Nat.succ_pos 1)))

/-- the stream's line reader with a length limit `lim`, `acc` being the part of the line taken before `s`:
`readSlice` is `lineOf s.size []` and `readBytes` is `lineOf maxLineLen []` -/
def lineOf (lim : Nat) (acc : Bytes) (s : Stream) : Option (Bytes × Stream) :=
  match splitLF s.data with
  | none => none
  | some (l, rest) => if (acc ++ l).length ≤ lim then some (acc ++ l, { s with data := rest }) else none

/-- a fragment without LF joins what was taken before -/
theorem lineOf_frag {frag d : Bytes} (hd : s.data = frag ++ d) (hn : splitLF frag = none) (lim : Nat) (acc : Bytes) :
    lineOf lim acc s = lineOf lim (acc ++ frag) { s with data := d } := by
  simp only [lineOf, hd, splitLF_none_append _ hn]
  cases splitLF d with
  | none => rfl
  | some p => simp only [Option.map_some, List.append_assoc]

/-- the line has at least its LF, so with `lim` bytes taken it is too long -/
theorem lineOf_long {lim : Nat} {acc : Bytes} (h : lim ≤ acc.length) : lineOf lim acc s = none := by
  unfold lineOf
  cases hb : splitLF s.data with
  | none => rfl
  | some p =>
    simp only []
    rw [List.length_append, if_neg (Nat.not_le_of_gt (Nat.lt_of_le_of_lt h (Nat.lt_add_of_pos_right (splitLF_parts hb).2)))]

theorem readSlice_sim (h : Rel r s) : OptSim Rel (readSlice r) (streamSrc.readSlice s) := by
  have hs := readSlice'_spec h
  show OptSim Rel (readSlice r) (lineOf s.size [] s)
  simp only [readSlice]
  cases hr : readSlice' r <;> rw [hr] at hs <;> simp only []
  · obtain ⟨rest, h1, h2, h3⟩ := hs
    simp only [lineOf, h1, List.nil_append, if_pos h2]
    exact ⟨rfl, h3⟩
  · obtain ⟨d, hd, hn, hlen, -⟩ := hs
    rw [lineOf_frag hd hn, List.nil_append, lineOf_long (Nat.le_of_eq hlen.symm)]
    trivial
  · simp only [lineOf, show splitLF s.data = none from hs]
    trivial

/-- `ReadBytes` with `acc` accumulated so far -/
theorem readBytesAux_sim (fuel : Nat) (acc : Bytes) (r : Reader) (s : Stream) (h : Rel r s) (hf : s.data.length < fuel) :
    OptSim Rel (readBytesAux fuel acc r) (lineOf maxLineLen acc s) := by
  fun_induction readBytesAux fuel acc r generalizing s with
  | case1 => exact absurd hf (Nat.not_lt_zero _)
  | case2 fuel acc r l r' hr hlong =>  -- the line ends here and is too long
    obtain ⟨rest, h1, -, -⟩ : SliceSpec s (.line l r') := hr ▸ readSlice'_spec h
    simp only [lineOf, h1, if_neg (Nat.not_le_of_gt hlong)]
    trivial
  | case3 fuel acc r l r' hr hshort =>  -- the line ends here
    obtain ⟨rest, h1, -, h3⟩ : SliceSpec s (.line l r') := hr ▸ readSlice'_spec h
    simp only [lineOf, h1, if_pos (Nat.le_of_not_gt hshort)]
    exact ⟨rfl, h3⟩
  | case4 fuel acc r frag r' hr hlong =>  -- a full buffer without LF, already too long
    obtain ⟨d, hd, hn, -, -⟩ : SliceSpec s (.full frag r') := hr ▸ readSlice'_spec h
    rw [lineOf_frag hd hn, lineOf_long (Nat.le_of_lt hlong)]
    trivial
  | case5 fuel acc r frag r' hr hshort ih =>  -- a full buffer without LF: go on with the fragment taken
    obtain ⟨d, hd, hn, hlen, hrel⟩ : SliceSpec s (.full frag r') := hr ▸ readSlice'_spec h
    have hless : d.length < s.data.length := by rw [hd, List.length_append]; exact Nat.lt_add_of_pos_left (hlen ▸ h.size ▸ h.pos)
    rw [lineOf_frag hd hn]
    exact ih _ hrel (Nat.lt_of_lt_of_le hless (Nat.le_of_lt_succ hf))
  | case6 fuel acc r hr =>  -- the data ends without LF
    simp only [lineOf, show splitLF s.data = none from (hr ▸ readSlice'_spec h : SliceSpec s .fail)]
    trivial

theorem readBytes_sim (h : Rel r s) : OptSim Rel (readBytes r) (streamSrc.readBytes s) :=
  readBytesAux_sim (remaining r + 2) [] r s h (by simp [remaining, h.data, List.length_flatten])

theorem read_win (h : Rel r s) (n : Nat) (hn : 0 < n) (hw : r.win ≠ []) :
    s.data = r.win.take n ++ (r.win.drop n ++ r.chunks.flatten) ∧ 0 < (r.win.take n).length ∧ (r.win.take n).length ≤ n ∧
    Rel { r with win := r.win.drop n } { s with data := r.win.drop n ++ r.chunks.flatten } := by
  refine ⟨by rw [h.data, ← List.append_assoc, List.take_append_drop], ?_, List.length_take_le n _, h.setWin ?_ rfl⟩
  · rw [List.length_take]
    exact Nat.lt_min.mpr ⟨hn, List.length_pos_iff.mpr hw⟩
  · rw [List.length_drop]
    exact Nat.le_trans (Nat.sub_le _ _) h.fits

/-- what one `Read(p)` with `len p = n > 0` does: it delivers a non-empty prefix of the remaining data, of at most `n` bytes -/
theorem read_spec (h : Rel r s) (n : Nat) (hn : 0 < n) :
    (s.data = [] ∧ Reader.read n r = none) ∨
    ∃ got d r', Reader.read n r = some (got, r') ∧ s.data = got ++ d ∧ 0 < got.length ∧ got.length ≤ n ∧
      Rel r' { s with data := d } := by
  fun_cases Reader.read n r with
  | case1 he => exact absurd he (by rw [h.noErr]; nofun)
  | case2 he hw hbig hc => exact .inl ⟨by rw [h.data, List.isEmpty_iff.mp hw, hc]; rfl, rfl⟩
  | case3 he hw hbig c cs hc rest =>
    -- a large read with an empty window takes from the connection directly
    have hne := h.nonempty
    rw [hc] at hne
    refine .inr ⟨_, r.win ++ _, _, rfl, ?_, ?_, List.length_take_le n _, ⟨h.noErr, h.size, rfl, nonempty_rest n hne, h.fits, h.pos⟩⟩
    · rw [h.data, List.isEmpty_iff.mp hw, hc, List.nil_append, List.nil_append, List.flatten_cons, flatten_rest]
    · rw [List.length_take]
      exact Nat.lt_min.mpr ⟨hn, List.length_pos_iff.mpr (hne c List.mem_cons_self)⟩
  | case4 he hw hbig r' he' =>
    exact .inl ⟨by rw [(fill_cases h (List.isEmpty_iff.mp hw ▸ h.pos)).1 he', List.isEmpty_iff.mp hw], rfl⟩
  | case5 he hw hbig r' he' =>
    obtain ⟨hf, hgrow⟩ := (fill_cases h (List.isEmpty_iff.mp hw ▸ h.pos)).2 he'
    exact .inr ⟨_, _, _, rfl, read_win hf n hn (List.length_pos_iff.mp (Nat.zero_lt_of_lt hgrow))⟩
  | case6 he hw => exact .inr ⟨_, _, _, rfl, read_win h n hn (by simpa using hw)⟩

/-- `io.ReadFull` with `acc` read so far and `need` bytes to go -/
theorem readFullAux_sim : ∀ (fuel need : Nat) (acc : Bytes) (r : Reader) (s : Stream), Rel r s → need < fuel →
    OptSim Rel (readFullAux fuel need acc r)
      (if need ≤ s.data.length then some (acc ++ s.data.take need, { s with data := s.data.drop need }) else none) := by
  intro fuel
  induction fuel with
  | zero => exact fun _ _ _ _ _ h => absurd h (Nat.not_lt_zero _)
  | succ fuel ih =>
    intro need acc r s h hf
    unfold readFullAux
    by_cases h0 : need = 0
    · subst h0
      exact ⟨by simp, h⟩
    rw [if_neg h0]
    have hn := Nat.pos_of_ne_zero h0
    rcases read_spec h need hn with ⟨hd, hread⟩ | ⟨got, d, r', hread, hd, hpos, hle, hrel⟩ <;> rw [hread, hd] <;> simp only []
    · rw [if_neg fun hle : need ≤ ([] : Bytes).length => h0 (Nat.le_zero.mp hle)]; trivial
    · have := ih (need - got.length) (acc ++ got) r' _ hrel (Nat.lt_of_lt_of_le (Nat.sub_lt hn hpos) (Nat.le_of_lt_succ hf))
      rw [List.take_append, List.drop_append, List.take_of_length_le hle, List.drop_eq_nil_of_le hle, List.length_append,
        List.nil_append, ← List.append_assoc]
      simpa only [Nat.sub_le_iff_le_add'] using this

theorem readFull_sim (n : Nat) (hn : 0 < n) (h : Rel r s) : OptSim Rel (readFull n r) (streamSrc.readFull n s) := by
  have := readFullAux_sim (n + 1) n [] r s h (Nat.lt_succ_self n)
  simpa [readFull, streamSrc, h.noErr, Nat.ne_of_gt hn] using this

theorem reader_sim : Sim Reader.src streamSrc Rel where
  peek := fun _ _ => peek_sim
  readByte := fun _ _ => readByte_sim
  readSlice := fun _ _ => readSlice_sim
  readBytes := fun _ _ => readBytes_sim
  readFull := fun n hn _ _ => readFull_sim n hn

end SamVerif.Resp
