/-
C15: the consistency invariant of the host set (`Good`) and its preservation by every history.

The two healthy maps are handled as one map `tier s b` per tier. Every elementary operation
(`addOne`, `removeOne`, the locked half of a mark) rewrites the entry of one address in it
(`tier_*`), and the invariant says what that entry is: the stored object, if it is of the tier
and flagged healthy (`keep`) — by the flags `g` the maps were written for, which the concurrent
model needs to differ from the state's own.
-/
import SamVerif.Model.HostSet
namespace SamVerif.Proofs.HostSet
open SamVerif.HostSet

theorem upd_same {β : Type} (f : Nat → β) (k : Nat) (v : β) : upd f k v k = v := if_pos rfl

theorem upd_ne {β : Type} (f : Nat → β) {k x : Nat} (v : β) (h : x ≠ k) : upd f k v x = f x := if_neg h

theorem upd_upd {β : Type} (f : Nat → β) (k : Nat) (v w : β) : upd (upd f k v) k w = upd f k w :=
  funext fun _ => ite_congr rfl (fun _ => rfl) fun h => if_neg h

theorem upd_eq {β : Type} (f : Nat → β) (k : Nat) : upd f k (f k) = f :=
  funext fun _ => ite_eq_right_iff.mpr fun h => h ▸ rfl

theorem upd_mono {r : Nat → Bool} {k i : Nat} (h : r i = true) : upd r k true i = true := by
  unfold upd; split
  · rfl
  · exact h

theorem upd_ite {β : Type} (c : Prop) [Decidable c] (f : Nat → β) (k : Nat) (v : β) :
    (if c then upd f k v else f) = upd f k (if c then v else f k) := by
  rw [apply_ite (upd f k), upd_eq]

theorem upd_ite_ite {β : Type} (c d : Prop) [Decidable c] [Decidable d] (f : Nat → β) (k : Nat) (v w : β) :
    (if d then upd (if c then upd f k v else f) k w else if c then upd f k v else f) =
      upd f k (if d then w else if c then v else f k) := by
  rw [upd_ite, upd_ite, upd_upd, upd_same]

def tier (s : State) (b : Bool) : Nat → Option Nat := if b then s.hMain else s.hBackup

theorem state_ext {s t : State} (h1 : s.all = t.all) (h2 : ∀ b, tier s b = tier t b) (h3 : s.reg = t.reg)
    (h4 : s.flag = t.flag) (h5 : s.removed = t.removed) (h6 : s.dom = t.dom) : s = t := by
  cases s; cases t
  exact State.mk.injEq .. ▸ ⟨h1, h2 true, h2 false, h3, h4, h5, h6⟩

theorem tier_removeOne (s : State) (o : Obj) (b : Bool) :
    tier (removeOne s o) b = upd (tier s b) o.addr
      (if o.main = b then none else if storedTier s o.addr none = some b then none else tier s b o.addr) := by
  -- unfolded into the model's two conditional updates, this is its text read for tier `b`
  rw [← upd_ite_ite]; cases b <;> rfl

theorem tier_addOneRepl (s : State) (o : Obj) (b : Bool) :
    tier (addOneRepl s o) b = upd (tier s b) o.addr
      (if s.flag o.id = true ∧ o.main = b then some o.id
       else if storedTier s o.addr (some o.id) = some b then none else tier s b o.addr) := by
  rw [← upd_ite_ite]; cases b <;> rfl

theorem tier_markApply (s : State) (o : Obj) (p b : Bool) :
    tier (markApply s o p).1 b = upd (tier s b) o.addr
      (if s.all o.addr = some o.id ∧ o.main = b then (if p then some o.id else none) else tier s b o.addr) := by
  rw [← upd_ite]; cases b <;> rfl

theorem mark_split (s : State) (o : Obj) (p : Bool) :
    mark s o p = if s.flag o.id = p then (s, false) else markApply (markCas s o p) o p := by
  unfold mark markApply markCas; rfl

theorem addOne_flag (s : State) (o : Obj) : (addOne s o).flag = s.flag := by
  unfold addOne; split <;> rfl

/-- every object with a given id has the attributes `attr id` (objects are immutable) -/
def WF (attr : Nat → Nat × Bool) (o : Obj) : Prop := (o.addr, o.main) = attr o.id

def keep (attr : Nat → Nat × Bool) (flag : Nat → Bool) (b : Bool) : Option Nat → Option Nat
  | some i => if flag i = true ∧ (attr i).2 = b then some i else none
  | none => none

/-- `g`: the flags the healthy maps were written for.  After a history of atomic operations they are `s.flag`; in the
concurrent model they are the flags of the atomic history the state stands for (`Ghost` of `Proofs/HostSetConc`), which
differ from `s.flag` where a mark is in flight.
`tier`: each healthy map holds, for every address, the stored object if `g` says healthy and it is of that tier
(`keep`), and nothing else.  `mem`: a stored object is registered with its attributes (`typOf` reads the registry) and
it is stored under its own address only (a mark changes the flag of an object wherever it is stored). -/
structure Good (attr : Nat → Nat × Bool) (g : Nat → Bool) (s : State) : Prop where
  tier : ∀ b x, tier s b x = keep attr g b (s.all x)
  mem : ∀ x i, s.all x = some i → s.reg i = some (attr i) ∧ (attr i).1 = x

variable {attr : Nat → Nat × Bool} {g g' : Nat → Bool} {s : State} {o : Obj}

theorem WF.main (hw : WF attr o) : (attr o.id).2 = o.main := by rw [← hw]
theorem WF.addr (hw : WF attr o) : (attr o.id).1 = o.addr := by rw [← hw]

theorem good_init : Good attr g init := ⟨fun b x => by cases b <;> rfl, fun x i h => by cases h⟩

theorem Good.typOf_eq (h : Good attr g s) {x i : Nat} (hx : s.all x = some i) : typOf s i = (attr i).2 := by
  unfold typOf; rw [(h.mem x i hx).1]

theorem storedTier_eq (s : State) (x : Nat) (ex : Option Nat) :
    storedTier s x ex = if s.all x = ex then none else (s.all x).map (typOf s) := by
  unfold storedTier
  cases s.all x with
  | none => simp
  | some i => rfl

theorem Good.storedTier_eq (h : Good attr g s) (x : Nat) (ex : Option Nat) :
    storedTier s x ex = if s.all x = ex then none else (s.all x).map fun i => (attr i).2 := by
  rw [HostSet.storedTier_eq]
  cases hx : s.all x with
  | none => rfl
  | some i => rw [Option.map_some, Option.map_some, h.typOf_eq hx]

/-- all three set operations register their argument -/
theorem reg_upd (hw : WF attr o) {r : Nat → Option (Nat × Bool)} {i : Nat} (h : r i = some (attr i)) :
    upd r o.id (some (o.addr, o.main)) i = some (attr i) := by
  unfold upd; split
  · rename_i e; rw [e, hw]
  · exact h

/-- the `mem` clause after `all := upd s.all o.addr v` and the registration of `o` -/
theorem mem_upd (h : Good attr g s) (hw : WF attr o) {v : Option Nat} {x i : Nat}
    (hv : v = some i → i = o.id) (hx : upd s.all o.addr v x = some i) :
    upd s.reg o.id (some (o.addr, o.main)) i = some (attr i) ∧ (attr i).1 = x := by
  unfold upd at hx; split at hx
  · rename_i e; cases hv hx; exact ⟨by rw [upd_same, hw], hw.addr.trans e.symm⟩
  · exact (h.mem x i hx).imp_left (reg_upd hw)

/-- with the entry of any stored object of tier `b` but `ex` dropped, only `ex` can have an entry left -/
theorem keep_drop (flag : Nat → Bool) (b : Bool) (w ex : Option Nat) :
    (if (if w = ex then none else w.map fun i => (attr i).2) = some b then none else keep attr flag b w) =
      if w = ex then keep attr flag b w else none := by
  by_cases he : w = ex
  · simp [he]
  · cases w with
    | none => simp [he, keep.eq_def]
    | some i => by_cases hb : (attr i).2 = b <;> simp [he, hb, keep.eq_def]

theorem keep_congr {k : Nat} (hg : ∀ i, i ≠ k → g' i = g i) (b : Bool) {v : Option Nat} (hv : v ≠ some k) :
    keep attr g' b v = keep attr g b v := by
  cases v with
  | none => rfl
  | some i => simp only [keep.eq_def, hg i fun e => hv (e ▸ rfl)]

/-- An operation on `o` rewrites the entries of `o.addr` and may be written for another flag of `o`, which no other
address sees: an object is stored under its own address only. -/
theorem tier_upd (h : Good attr g s) (hw : WF attr o) (hg : ∀ i, i ≠ o.id → g' i = g i) (b : Bool)
    {v w : Option Nat} (hv : v = keep attr g' b w) (x : Nat) :
    upd (tier s b) o.addr v x = keep attr g' b (upd s.all o.addr w x) := by
  unfold upd; split
  · exact hv
  · rename_i hx
    rw [h.tier, keep_congr hg]
    exact fun e => hx ((h.mem x _ e).2.symm.trans hw.addr)

theorem good_removeOne (h : Good attr g s) (hw : WF attr o) : Good attr g (removeOne s o) where
  tier b := by
    rw [tier_removeOne, h.storedTier_eq]
    refine tier_upd h hw (fun _ _ => rfl) b ?_
    rw [h.tier, keep_drop]
    cases s.all o.addr <;> simp [keep.eq_def]
  mem _ _ := mem_upd h hw nofun

/-- One host of `Set.add`, also under a mark of it in flight (`g o.id ≠ s.flag o.id`).  The entry is written for
`s.flag o.id`, so the maps are those for `g` with that flag of `o` — except where nothing is written: `o` is the stored
object and flagged unhealthy, so its entry stays what `g` says. -/
theorem good_addOne (h : Good attr g s) (hw : WF attr o) (hg : ∀ i, i ≠ o.id → g' i = g i)
    (ho : g' o.id = if s.all o.addr = some o.id ∧ s.flag o.id = false then g o.id else s.flag o.id) :
    Good attr g' (addOne s o) := by
  unfold addOne; split
  · -- an equal object is stored: `o` is seen only, and stored nowhere
    next ht =>
    refine ⟨fun b x => ?_, fun x i hx => (h.mem x i hx).imp_left (reg_upd hw)⟩
    refine (h.tier b x).trans (keep_congr hg b fun e => ?_).symm
    cases (h.mem x _ e).2.symm.trans hw.addr
    simp [storedTier, e] at ht
  · refine ⟨fun b => ?_, fun _ _ => mem_upd h hw fun e => (Option.some.inj e).symm⟩
    rw [tier_addOneRepl, h.storedTier_eq]
    refine tier_upd h hw hg b ?_
    rw [h.tier, keep_drop]
    by_cases hm : s.all o.addr = some o.id
    · cases hf : s.flag o.id
      · simp [hm, hf, keep.eq_def, ho]
      · by_cases hb : o.main = b <;> simp [hm, hf, hb, keep.eq_def, ho, hw.main]
    · simp [hm, keep.eq_def, ho, hw.main]

/-- the locked half of a mark: the entry of `o`, if it is the stored object, becomes what `p` says -/
theorem good_markApply (h : Good attr g s) (hw : WF attr o) (hg : ∀ i, i ≠ o.id → g' i = g i) (p : Bool)
    (ho : g' o.id = p) : Good attr g' (markApply s o p).1 := by
  refine ⟨fun b x => ?_, h.mem⟩
  rw [tier_markApply]
  refine (tier_upd h hw hg b (w := s.all o.addr) ?_ x).trans (by rw [upd_eq]; rfl)
  · by_cases hm : s.all o.addr = some o.id
    · by_cases hb : o.main = b <;> simp [hm, hb, keep.eq_def, ho, hw.main, h.tier]
    · rw [if_neg (fun e => hm e.1), h.tier, keep_congr hg _ hm]

theorem good_mark (h : Good attr s.flag s) (hw : WF attr o) (p : Bool) : Good attr (mark s o p).1.flag (mark s o p).1 := by
  rw [mark_split]; split
  · exact h
  · -- `markCas` writes the flag only, which `Good … s.flag` does not read: `h` holds of `markCas s o p` as it stands
    exact good_markApply (s := markCas s o p) ⟨h.tier, h.mem⟩ hw (fun _ => upd_ne _ _) p (upd_same ..)

theorem Good.stored_wf (h : Good attr g s) : ∀ o ∈ stored s, WF attr o := by
  intro o ho
  obtain ⟨a, _, hao⟩ := List.mem_filterMap.mp ho
  split at hao <;> cases hao
  next i hall => exact Prod.ext (h.mem a i hall).2.symm (h.typOf_eq hall)

/-- `hst`: `replaceAll` removes the stored objects, which no caller passed -/
theorem setOps_preserve {P : State → Prop} {Q : Obj → Prop}
    (hadd : ∀ s o, P s → Q o → P (addOne s o)) (hrem : ∀ s o, P s → Q o → P (removeOne s o))
    (hst : ∀ s, P s → ∀ o ∈ stored s, Q o) (h : P s) {os : List Obj} (hos : ∀ o ∈ os, Q o) :
    P (add s os) ∧ P (remove s os) ∧ P (replaceAll s os) :=
  have hA : ∀ s, P s → P (add s os) := fun _ h => List.foldlRecOn os addOne h fun s hs o ho => hadd s o hs (hos o ho)
  ⟨hA s h, List.foldlRecOn os removeOne h fun s hs o ho => hrem s o hs (hos o ho),
    hA _ (List.foldlRecOn (stored s) removeOne h fun s' hs o ho => hrem s' o hs (hst s h o ho))⟩

theorem entries_tier (h : Good attr s.flag s) (b : Bool) :
    entries s (tier s b) =
      (s.dom.filterMap fun a => match s.all a with
        | some i => if typOf s i = b ∧ s.flag i then some (a, i) else none
        | none => none).foldr insertByAddr [] := by
  unfold entries
  congr 2
  funext a
  rw [h.tier]
  cases ha : s.all a with
  | none => rfl
  | some i => rw [keep, apply_ite (Option.map _)]; exact ite_cond_congr (h.typOf_eq ha ▸ propext and_comm)

theorem healthy_eq_spec (h : Good attr s.flag s) : healthy s = usableSpec s := by
  show (if (entries s (tier s true)).isEmpty then entries s (tier s false) else entries s (tier s true)) = _
  rw [entries_tier h true, entries_tier h false]
  rfl

/-- closes goals about `upd`; `hw` an injectivity fact, `ha` a disequality -/
macro "hs_close" hw:ident ha:ident : tactic => `(tactic| (
  simp_all [upd]
  all_goals first
    | done
    | (intro e; subst e; simp_all; done)
    | (intro e; exact absurd ($hw _ e) $ha)
    | (intro e; have := $hw _ e; simp_all; done)
    | (intros; simp_all; done)))

end SamVerif.Proofs.HostSet

/- The histories of set operations that the theorems of C15 and C06 quantify over, under the namespace
by which those theorems name them.  They stand here because the invariant for all histories
(`good_run`) and the ghost of the concurrent model (`Reach` of `Proofs/HostSetConc`) are stated over them. -/

namespace SamVerif.Props.C15
open SamVerif.HostSet SamVerif.Proofs.HostSet

inductive Op where
  | add (os : List Obj)
  | remove (os : List Obj)
  | replaceAll (os : List Obj)
  | mark (o : Obj) (healthy : Bool)

def objsOf : Op → List Obj
  | .add os => os
  | .remove os => os
  | .replaceAll os => os
  | .mark o _ => [o]

def step (s : State) : Op → State
  | .add os => add s os
  | .remove os => remove s os
  | .replaceAll os => replaceAll s os
  | .mark o h => (mark s o h).1

def run (s : State) (ops : List Op) : State := ops.foldl step s

variable {attr : Nat → Nat × Bool} {s : State}

theorem good_step (h : Good attr s.flag s) (op : Op) (hw : ∀ o ∈ objsOf op, WF attr o) :
    Good attr (step s op).flag (step s op) := by
  obtain ⟨hadd, hrem, hrep⟩ := setOps_preserve (P := fun s => Good attr s.flag s)
    (fun s o h hw => good_addOne h hw (fun _ _ => addOne_flag s o ▸ rfl) (by rw [addOne_flag, ite_self]))
    (fun _ _ => good_removeOne) (fun _ => Good.stored_wf) h (os := objsOf op) hw
  cases op with
  | add os => exact hadd
  | remove os => exact hrem
  | replaceAll os => exact hrep
  | mark o p => exact good_mark h (hw o (List.mem_singleton.mpr rfl)) p

theorem good_run (ops : List Op) (hw : ∀ op ∈ ops, ∀ o ∈ objsOf op, WF attr o) :
    Good attr (run init ops).flag (run init ops) :=
  List.foldlRecOn ops step (motive := fun s => Good attr s.flag s) good_init fun _ hs op hop => good_step hs op (hw op hop)

end SamVerif.Props.C15
