import SamVerif.Model.Sub
import SamVerif.Proofs.Lts
/-! Helper lemmas for C16 (discovery subscriptions): `lastOp` says what a list of changes and the request built from
it do to one service; `Inv` with `target`; `script`, by which the run loop gets back in sync. -/
namespace SamVerif.Sub

/-- the latest change of service `k` in a list of changes -/
def lastOp : Ops → Nat → Option Bool
  | [], _ => none
  | (n, b) :: r, k => (lastOp r k).or (if n = k then some b else none)

theorem applyOps_append (s : NSet) (a b : Ops) : applyOps s (a ++ b) = applyOps (applyOps s a) b := by
  induction a generalizing s with
  | nil => rfl
  | cons p a ih => exact ih _

theorem applyOps_lastOp (ops : Ops) (s : NSet) (k : Nat) : applyOps s ops k = (lastOp ops k).getD (s k) := by
  induction ops generalizing s with
  | nil => rfl
  | cons p r ih =>
    obtain ⟨n, b⟩ := p
    rw [applyOps, ih, lastOp, upd, Option.getD_or]
    by_cases h : k = n <;> simp [h, Ne.symm]

theorem lastOp_isSome (r : Ops) (n : Nat) : (lastOp r n).isSome = r.any (fun p => p.1 == n) := by
  induction r with
  | nil => rfl
  | cons p r ih =>
    obtain ⟨m, b⟩ := p
    rw [lastOp, Option.isSome_or, ih, List.any_cons, Bool.or_comm]
    congr 1
    exact Bool.eq_iff_iff.mpr (Option.isSome_ite.trans beq_iff_eq.symm)

theorem mem_latestOnly (ops : Ops) (k : Nat) (b : Bool) : (k, b) ∈ latestOnly ops ↔ lastOp ops k = some b := by
  induction ops with
  | nil => simp [latestOnly, lastOp]
  | cons p r ih =>
    obtain ⟨n, c⟩ := p
    rw [latestOnly, lastOp, ← lastOp_isSome]
    split
    · next h =>
      rw [ih]
      by_cases hk : n = k
      · subst hk; cases hl : lastOp r n <;> simp_all
      · simp [hk]
    · next h =>
      rw [List.mem_cons, ih]
      by_cases hk : n = k
      · subst hk; rw [Option.not_isSome_iff_eq_none.mp h]; simp [eq_comm]
      · simp [hk, Ne.symm hk]

theorem mem_mkMsg (ops : Ops) (k : Nat) :
    (k ∈ (mkMsg ops).subs ↔ lastOp ops k = some true) ∧ (k ∈ (mkMsg ops).unsubs ↔ lastOp ops k = some false) := by
  simp [mkMsg, mem_latestOnly]

/-- one request built by `takePending` has the effect of the changes it was built from, applied
in order — whichever way the server reads a request -/
theorem applyMsg_mkMsg (s : NSet) (ops : Ops) :
    applyMsgSU s (mkMsg ops) = applyOps s ops ∧ applyMsgUS s (mkMsg ops) = applyOps s ops := by
  constructor <;> funext k <;> rw [applyOps_lastOp]
  -- either reading looks at the latest change of `k` only
  all_goals
    simp only [applyMsgSU, applyMsgUS, mem_mkMsg]
    rcases lastOp ops k with _ | _ | _ <;> simp

theorem mkMsg_disjoint (ops : Ops) (k : Nat) : ¬ (k ∈ (mkMsg ops).subs ∧ k ∈ (mkMsg ops).unsubs) := by
  simp only [mem_mkMsg]
  rintro ⟨h1, h2⟩
  cases h1.symm.trans h2

/-- what the server's set will be once everything in flight has been delivered -/
def target (s : St) : Option NSet :=
  match s.phase with
  | .down => none
  | .snap l => some (applyOps (memSet l) s.pending)
  | .idle => some (applyOps s.server s.pending)
  | .sending m => some (applyOps (applyMsgSU s.server m) s.pending)

structure Inv (s : St) : Prop where
  support : ∀ k, s.subscribed k = true → k ∈ s.names
  tracks : ∀ t, target s = some t → ∀ k, t k = s.subscribed k

theorem inv_init : Inv {} := ⟨nofun, nofun⟩

theorem mem_addName (l : List Nat) (n k : Nat) : k ∈ addName l n ↔ k ∈ l ∨ k = n := by
  unfold addName
  split
  · next h => exact ⟨.inl, fun hk => hk.elim id (· ▸ h)⟩
  · simp

theorem target_change (s : St) (n : Nat) (b : Bool) (names : List Nat) :
    target { s with subscribed := upd s.subscribed n b, pending := s.pending ++ [(n, b)], names := names } =
      (target s).map (upd · n b) := by
  unfold target
  cases s.phase <;> simp only [applyOps_append] <;> rfl

theorem target_snap {s : St} {l : List Nat} (h : s.phase = .snap l) :
    target s = some (applyOps (memSet l) s.pending) := by rw [target, h]
theorem target_idle {s : St} (h : s.phase = .idle) : target s = some (applyOps s.server s.pending) := by rw [target, h]
theorem target_sending {s : St} {m : Msg} (h : s.phase = .sending m) :
    target s = some (applyOps (applyMsgSU s.server m) s.pending) := by rw [target, h]

/-- `ht` holds when the target is unchanged and when the stream is lost (`target s' = none`) -/
theorem Inv.of_target {s s' : St} (hi : Inv s) (hsub : s'.subscribed = s.subscribed) (hn : s'.names = s.names)
    (ht : ∀ t, target s' = some t → target s = some t) : Inv s' :=
  ⟨fun k => hsub ▸ hn ▸ hi.support k, fun t h => hsub ▸ hi.tracks t (ht t h)⟩

/-- the snapshot `resubscribe` takes is the dependency set -/
theorem memSet_snapshot {s : St} (hi : Inv s) (k : Nat) : memSet (s.names.filter s.subscribed) k = s.subscribed k := by
  unfold memSet
  cases hk : s.subscribed k <;> simp [hk, hi.support k]

theorem Inv.change {s : St} (hi : Inv s) (n : Nat) (b : Bool) (names : List Nat)
    (hsup : ∀ k, upd s.subscribed n b k = true → k ∈ names) :
    Inv { s with subscribed := upd s.subscribed n b, pending := s.pending ++ [(n, b)], names := names } := by
  refine ⟨hsup, fun t ht k => ?_⟩
  rw [target_change] at ht
  obtain ⟨t0, h0, rfl⟩ := Option.map_eq_some_iff.mp ht
  exact congrArg (if k = n then b else ·) (hi.tracks t0 h0 k)

theorem inv_step (s : St) (l : Label) (s' : St) (hi : Inv s) (hs : step s l = some s') : Inv s' := by
  revert hs
  -- the enabled branches of `step` in its order: sub (subscribed already, not yet), unsub (subscribed, not),
  -- connectFail, connect, resubSent, resubFail, take, sent, sendFail, recvFail (parked, sending)
  fun_cases step s l <;> rintro ⟨⟩
  next => exact hi
  next n _ =>
    refine hi.change n true _ fun k hk => (mem_addName ..).mpr ?_
    simp only [upd] at hk
    split at hk
    · exact .inr ‹_›
    · exact .inl (hi.support k hk)
  next n _ =>
    refine hi.change n false _ fun k hk => ?_
    simp only [upd] at hk
    split at hk
    · cases hk
    · exact hi.support k hk
  next => exact hi
  next => exact hi
  next => exact ⟨hi.support, fun t ht k => by cases ht; exact memSet_snapshot hi k⟩
  next l h => exact hi.of_target rfl rfl fun t ht => (target_snap h).trans ht
  next => exact hi.of_target rfl rfl nofun
  next h => exact hi.of_target rfl rfl fun t ht => by rw [target_idle h.1, ← (applyMsg_mkMsg ..).1]; exact ht
  next m h => exact hi.of_target rfl rfl fun t ht => (target_sending h).trans ht
  all_goals exact hi.of_target rfl rfl nofun

theorem Inv.synced {s : St} (hi : Inv s) (hidle : s.phase = .idle) (hp : s.pending = []) (k : Nat) :
    s.server k = s.subscribed k :=
  hi.tracks _ (by rw [target_idle hidle, hp]; rfl) k

theorem isRun : Lts.IsRun step run := ⟨fun _ => rfl, fun s l ls => by rw [run]; cases step s l <;> rfl⟩

theorem inv_reach {ls : List Label} {s : St} (h : run {} ls = some s) : Inv s := isRun.inv inv_step inv_init h

/-- what the run loop does from `s` when nothing fails and no caller interferes -/
def script (s : St) : List Label :=
  match s.phase with
  | .down => [.connect, .resubSent]     -- `connect` drops the pending changes: the snapshot covers them
  | .snap _ => .resubSent :: flush
  | .idle => flush
  | .sending _ => .sent :: flush
where flush := if s.pending = [] then [] else [.take, .sent]

/-- What the catch-up results rest on: the script ends with the stream up and nothing pending, and the invariant
holds wherever a run ends. -/
theorem script_in_sync {s : St} (hi : Inv s) :
    ∃ s', run s (script s) = some s' ∧ s'.phase = .idle ∧ s'.pending = [] ∧
      (∀ k, s'.subscribed k = s.subscribed k) ∧ ∀ k, s'.server k = s.subscribed k := by
  have hs : ∃ s', run s (script s) = some s' ∧ s'.phase = .idle ∧ s'.pending = [] ∧ s'.subscribed = s.subscribed := by
    obtain ⟨_, _, pending, _, phase⟩ := s
    cases phase <;> cases pending <;> exact ⟨_, rfl, rfl, rfl, rfl⟩
  obtain ⟨s', hr, h1, h2, h3⟩ := hs
  exact ⟨s', hr, h1, h2, fun _ => h3 ▸ rfl, fun k => h3 ▸ (isRun.inv inv_step hi hr).synced h1 h2 k⟩

end SamVerif.Sub
