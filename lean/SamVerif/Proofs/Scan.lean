/-
C18 helper lemmas: the generated cursor functions as arithmetic on naturals.
-/
import SamVerif.Model.Scan
import SamVerif.Proofs.Resp
namespace SamVerif.Proofs.Scan
open SamVerif SamVerif.Gen.Scan SamVerif.Resp SamVerif.Proofs.Resp

theorem genCursor_toNat (i : BitVec 16) (c : BitVec 64) (hc : c.toNat < 2^48) :
    (genCursor i c).toNat = i.toNat * 2^48 + c.toNat := by
  rw [genCursor, BitVec.toNat_or, BitVec.toNat_shiftLeft, BitVec.toNat_setWidth_of_le (by decide), Nat.shiftLeft_eq,
    Nat.mod_eq_of_lt (Nat.mul_lt_mul_of_lt_of_le i.isLt .refl (by decide)), ← Nat.shiftLeft_eq,
    ← Nat.shiftLeft_add_eq_or_of_lt hc]

theorem parseCursor_toNat (u : BitVec 64) :
    ((parseCursor u).1.toNat, (parseCursor u).2.toNat) = (u.toNat / 2^48, u.toNat % 2^48) := by
  unfold parseCursor
  simp only [BitVec.toNat_setWidth, BitVec.toNat_ushiftRight, BitVec.toNat_and,
    Nat.shiftRight_eq_div_pow]
  congr 1
  · exact Nat.mod_eq_of_lt (Nat.div_lt_of_lt_mul u.isLt)
  · exact Nat.and_two_pow_sub_one_eq_mod _ 48

theorem parseCursor_of_toNat (u : BitVec 64) (i : BitVec 16) (c : BitVec 64) (hc : c.toNat < 2^48)
    (h : u.toNat = i.toNat * 2^48 + c.toNat) : parseCursor u = (i, c) := by
  have hp := parseCursor_toNat u
  rw [h, Nat.add_comm, Nat.add_mul_div_right _ _ (by decide), Nat.add_mul_mod_self_right,
    Nat.div_eq_of_lt hc, Nat.mod_eq_of_lt hc, Nat.zero_add] at hp
  exact Prod.ext (BitVec.eq_of_toNat_eq (congrArg Prod.fst hp)) (BitVec.eq_of_toNat_eq (congrArg Prod.snd hp))

end SamVerif.Proofs.Scan
