import SamVerif.Model.Upstream
/-! C03: the cluster holds the single server's data iff its data is one function of node and key
(`represents_iff`), and each per-key command keeps that.  C04: what each kind of node answers. -/
namespace SamVerif.Upstream

theorem proxy1_data (c : Cluster) (cmd : Cmd1) (k : Key) (m : Nat) :
    (proxy1 c cmd k).1.data m =
      if m = c.nodeOf k then kvUpd (c.data (c.nodeOf k)) k (cmd.eff (c.data (c.nodeOf k) k)) else c.data m := rfl

theorem proxy1_nodeOf (c : Cluster) (cmd : Cmd1) (k k' : Key) : (proxy1 c cmd k).1.nodeOf k' = c.nodeOf k' := rfl

theorem kvUpd_apply (s : KV) (k x : Key) (v : Option Val) : kvUpd s k v x = if x = k then v else s x := rfl

theorem represents_iff (c : Cluster) (s : KV) :
    Represents c s ↔ ∀ k n, c.data n k = if n = c.nodeOf k then s k else none :=
  ⟨fun h k n => by split <;> simp_all [(h k).1, (h k).2 n],
   fun h k => ⟨by simp [h], fun n hn => by simp [h, hn]⟩⟩

theorem represents_exec1 (c : Cluster) (s : KV) (cmd : Cmd1) (k : Key) (h : Represents c s) :
    Represents (proxy1 c cmd k).1 (exec1 s cmd k).1 ∧ (proxy1 c cmd k).2 = (exec1 s cmd k).2 := by
  rw [represents_iff] at h ⊢
  have hk : c.data (c.nodeOf k) k = s k := by rw [h, if_pos rfl]
  refine ⟨fun k' n => ?_, congrArg cmd.rep hk⟩
  rw [proxy1_data, proxy1_nodeOf, exec1]
  -- is `n` the node written to, is `k'` the key written
  by_cases hn : n = c.nodeOf k <;> by_cases hkk : k' = k <;> simp [hn, hkk, h, kvUpd_apply]

theorem proxy1_layout (c : Cluster) (cmd : Cmd1) (k : Key) :
    (proxy1 c cmd k).1.slot = c.slot ∧ (proxy1 c cmd k).1.owner = c.owner := ⟨rfl, rfl⟩

theorem represents_many (cs : List (Cmd1 × Key)) : ∀ (c : Cluster) (s : KV), Represents c s →
    Represents (proxyMany c cs).1 (execMany s cs).1 ∧ (proxyMany c cs).2 = (execMany s cs).2 := by
  induction cs with
  | nil => intro c s h; exact ⟨h, rfl⟩
  | cons p rest ih =>
    intro c s h
    obtain ⟨cmd, k⟩ := p
    have h1 := represents_exec1 c s cmd k h
    have h2 := ih (proxy1 c cmd k).1 (exec1 s cmd k).1 h1.1
    simp only [proxyMany, execMany]
    exact ⟨h2.1, by rw [h1.2, h2.2]⟩

theorem nodeAnswer_owner (t : Truth) (p a : Bool) :
    nodeAnswer t t.owner p a = if p then .serve else t.target.elim .serve .ask := by
  cases p <;> cases h : t.target <;> simp [nodeAnswer, h]

theorem nodeAnswer_other (t : Truth) (p : Bool) {node : Nat} (h : node ≠ t.owner) :
    nodeAnswer t node p false = .moved t.owner := by
  simp [nodeAnswer, h]

theorem nodeAnswer_asking (t : Truth) (p : Bool) {d : Nat} (ht : t.target = some d) (h : d ≠ t.owner) :
    nodeAnswer t d p true = .serve := by
  simp [nodeAnswer, ht, h]

/-- more fuel does not change where a walk ends -/
theorem follow_mono (t : Truth) (p : Bool) (f node : Nat) (a : Bool) {x : Nat × Nat}
    (h : follow t p f node a = some x) : follow t p (f + 1) node a = some x := by
  fun_induction follow t p f node a generalizing x with
  | case1 => cases h
  | case2 f node a ha => rw [follow, ha]; exact h
  | case3 f node a n ha ih | case4 f node a n ha ih =>
    obtain ⟨y, hy, rfl⟩ := Option.map_eq_some_iff.mp h
    rw [follow, ha]; simp only []; rw [ih hy]; rfl

end SamVerif.Upstream
