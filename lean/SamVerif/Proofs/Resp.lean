/-
C10 helper lemmas: decimal integers round-trip through `itoa`/`parseInt64`; the stream source
reads back lines and bulk bodies produced by the encoder; one level of the decoder, for any source
(`decode_succ`) and on the stream by the type byte it meets.
-/
import SamVerif.Spec.Resp
namespace SamVerif.Proofs.Resp
open SamVerif.Resp

theorem digitChar_toNat (d : Nat) (h : d < 10) : (digitChar d).toNat = 48 + d := by
  rw [digitChar, UInt8.toNat_ofNat', Nat.mod_eq_of_lt (by omega)]

theorem isDigit_digitChar (d : Nat) (h : d < 10) : isDigit (digitChar d) = true := by
  simp only [isDigit, Bool.and_eq_true, decide_eq_true_eq, UInt8.le_iff_toNat_le, digitChar_toNat d h]
  exact ⟨Nat.le_add_right 48 d, Nat.add_le_add_left (Nat.le_of_lt_succ h) 48⟩

theorem natDigits_ne_nil (n : Nat) : natDigits n ≠ [] := by
  fun_cases natDigits n <;> simp

theorem natDigits_all_digit (n : Nat) : (natDigits n).all isDigit = true := by
  fun_induction natDigits n with
  | case1 n h => simp [isDigit_digitChar n h]
  | case2 n h ih => simp [ih, isDigit_digitChar (n % 10) (Nat.mod_lt _ (by decide))]

theorem parseDigits_append (a : Bytes) (c : UInt8) :
    parseDigits (a ++ [c]) = parseDigits a * 10 + (c.toNat - 48) :=
  List.foldl_append ..

theorem parseDigits_natDigits (n : Nat) : parseDigits (natDigits n) = n := by
  fun_induction natDigits n with
  | case1 n h => simp [parseDigits, digitChar_toNat n h]
  | case2 n h ih =>
    rw [parseDigits_append, ih, digitChar_toNat _ (Nat.mod_lt _ (by decide)), Nat.add_sub_cancel_left,
      Nat.div_add_mod']

theorem natDigits_eq_zero_iff (n : Nat) : natDigits n = [48] ↔ n = 0 :=
  ⟨fun h => by rw [← parseDigits_natDigits n, h]; rfl, fun h => by rw [h, natDigits]; rfl⟩

theorem natDigits_length_le (k : Nat) (n : Nat) (hn : n < 10 ^ (k+1)) : (natDigits n).length ≤ k + 1 := by
  fun_induction natDigits n generalizing k with
  | case1 => simp
  | case2 n h ih =>
    cases k with
    | zero => exact absurd hn h
    | succ k =>
      rw [List.length_append]
      exact Nat.succ_le_succ (ih k (Nat.div_lt_of_lt_mul (Nat.pow_succ' ▸ hn)))

theorem parseInt64_digits {ds : Bytes} (hne : ds ≠ []) (hall : ds.all isDigit = true) :
    parseInt64 ds = parseSigned false ds := by
  cases ds with
  | nil => exact absurd rfl hne
  | cons c rest =>
    have hc : isDigit c = true := List.all_eq_true.mp hall c (List.mem_cons_self ..)
    -- `==` on `UInt8` is `decide (· = ·)`; `beq_iff_eq` and the other `LawfulBEq` lemmas search for the instance in every
    -- proof that uses them
    have h1 : (c == tMinus) = false := decide_eq_false (by rintro rfl; exact absurd hc (by decide))
    have h2 : (c == tPlus) = false := decide_eq_false (by rintro rfl; exact absurd hc (by decide))
    simp only [parseInt64, h1, h2, Bool.false_eq_true, if_false]

theorem parseSigned_natDigits (n : Nat) (neg : Bool)
    (h : minInt64 ≤ (if neg then -(n:Int) else (n:Int)) ∧ (if neg then -(n:Int) else (n:Int)) ≤ maxInt64) :
    parseSigned neg (natDigits n) = some (if neg then -(n:Int) else (n:Int)) := by
  have hne : (natDigits n).isEmpty = false := by simpa using natDigits_ne_nil n
  simp [parseSigned, hne, natDigits_all_digit, parseDigits_natDigits, h]

theorem parseInt64_itoa (i : Int) (h1 : minInt64 ≤ i) (h2 : i ≤ maxInt64) : parseInt64 (itoa i) = some i := by
  cases i with
  | ofNat n =>
    rw [itoa, parseInt64_digits (natDigits_ne_nil n) (natDigits_all_digit n)]
    exact parseSigned_natDigits n false ⟨h1, h2⟩
  | negSucc n =>
    have e : (-(((n+1 : Nat)) : Int)) = Int.negSucc n := Int.neg_ofNat_succ n
    have := parseSigned_natDigits (n+1) true (by simp only [↓reduceIte]; rw [e]; exact ⟨h1, h2⟩)
    simp only [itoa, parseInt64, beq_self_eq_true', ↓reduceIte, this, e]

theorem itoa_length_le (i : Int) (h1 : minInt64 ≤ i) (h2 : i ≤ maxInt64) : (itoa i).length ≤ 20 := by
  cases i with
  | ofNat n => exact Nat.le_succ_of_le (natDigits_length_le 18 n (Int.ofNat_lt.mp (Int.lt_of_le_of_lt h2 (by decide))))
  | negSucc n => exact Nat.succ_le_succ (natDigits_length_le 18 (n+1) (by unfold minInt64 at h1; omega))

theorem natDigits_no_LF (n : Nat) : ∀ c ∈ natDigits n, c ≠ LF := by
  rintro c hc rfl
  exact absurd (List.all_eq_true.mp (natDigits_all_digit n) _ hc) (by decide)

theorem itoa_no_LF (i : Int) : ∀ c ∈ itoa i, c ≠ LF := by
  cases i with
  | ofNat n => exact natDigits_no_LF n
  | negSucc n => exact List.forall_mem_cons.mpr ⟨by decide, natDigits_no_LF (n + 1)⟩

theorem splitLF_none_append {a : Bytes} (b : Bytes) (h : splitLF a = none) :
    splitLF (a ++ b) = (splitLF b).map fun p => (a ++ p.1, p.2) := by
  fun_induction splitLF a with
  | case1 => rw [List.nil_append]; cases splitLF b <;> rfl
  | case2 c rest hc => cases h
  | case3 c rest hc hs ih => simp only [List.cons_append, splitLF, hc, ih hs]; cases splitLF b <;> rfl
  | case4 c rest hc l' r' hs => cases h

theorem splitLF_some_append {a l r : Bytes} (b : Bytes) (h : splitLF a = some (l, r)) : splitLF (a ++ b) = some (l, r ++ b) := by
  fun_induction splitLF a generalizing l r with
  | case1 => cases h
  | case2 c rest hc => cases h; simp [splitLF, hc]
  | case3 c rest hc hs => cases h
  | case4 c rest hc l' r' hs ih => cases h; simp [splitLF, hc, ih hs]

theorem splitLF_parts {a l r : Bytes} (h : splitLF a = some (l, r)) : l ++ r = a ∧ 0 < l.length := by
  fun_induction splitLF a generalizing l r with
  | case1 => cases h
  | case2 c rest hc => cases h; exact ⟨rfl, Nat.one_pos⟩
  | case3 c rest hc hs => cases h
  | case4 c rest hc l' r' hs ih => cases h; exact ⟨congrArg (c :: ·) (ih hs).1, Nat.succ_pos _⟩

theorem splitLF_noLF {t : Bytes} (h : ∀ c ∈ t, c ≠ LF) : splitLF t = none := by
  induction t with
  | nil => rfl
  | cons x xs ih =>
    rw [splitLF, if_neg, ih fun c hc => h c (List.mem_cons_of_mem _ hc)]
    exact mt of_decide_eq_true (h x (List.mem_cons_self ..))

theorem splitLF_append {t : Bytes} (h : ∀ c ∈ t, c ≠ LF) (rest : Bytes) :
    splitLF (t ++ LF :: rest) = some (t ++ [LF], rest) := by
  rw [splitLF_none_append _ (splitLF_noLF h)]; rfl

theorem splitLF_line (t rest : Bytes) (h : ∀ c ∈ t, c ≠ LF) :
    splitLF (t ++ (crlf ++ rest)) = some (t ++ crlf, rest) := by
  rw [splitLF_none_append _ (splitLF_noLF h)]; rfl

theorem stripCRLF_line (t : Bytes) : stripCRLF (t ++ crlf) = some t := by
  simp [stripCRLF, crlf]

theorem decodeInt_stream (sz : Nat) (hsz : 32 ≤ sz) (i : Int) (h1 : minInt64 ≤ i) (h2 : i ≤ maxInt64)
    (rest : Bytes) :
    decodeInt streamSrc ⟨sz, itoa i ++ (crlf ++ rest)⟩ = some (i, ⟨sz, rest⟩) := by
  unfold decodeInt
  have hs := splitLF_line (itoa i) rest (itoa_no_LF i)
  -- `32 ≤ sz`: `ReadSlice` fails on a line longer than the buffer, and an int64 line is up to 20 bytes and CR LF
  have hfit : (itoa i).length + crlf.length ≤ sz :=
    Nat.le_trans (Nat.add_le_add_right (itoa_length_le i h1 h2) 2) (Nat.le_trans (by decide) hsz)
  simp only [streamSrc, hs, List.length_append, hfit, ↓reduceIte, Option.pure_def, Option.bind_eq_bind, Option.bind_some,
    stripCRLF_line, parseInt64_itoa i h1 h2]

theorem decodeText_stream (sz : Nat) (t : Bytes) (h : ∀ c ∈ t, c ≠ LF) (hlen : t.length + 2 ≤ maxLineLen)
    (rest : Bytes) :
    decodeText streamSrc ⟨sz, t ++ (crlf ++ rest)⟩ = some (t, ⟨sz, rest⟩) := by
  unfold decodeText
  have hl : t.length + crlf.length ≤ maxLineLen := hlen
  simp only [streamSrc, splitLF_line t rest h, List.length_append, hl, ↓reduceIte, Option.pure_def, Option.bind_eq_bind,
    Option.bind_some, stripCRLF_line]

theorem readFull_stream (sz : Nat) (t rest : Bytes) :
    streamSrc.readFull (t.length + 2) ⟨sz, t ++ (crlf ++ rest)⟩ = some (t ++ crlf, ⟨sz, rest⟩) := by
  have hlen : (t ++ crlf).length = t.length + 2 := List.length_append
  rw [← List.append_assoc, ← hlen]
  simp only [streamSrc, List.take_left' rfl, List.drop_left' rfl, List.length_append (bs := rest), Nat.le_add_right,
    ↓reduceIte]

@[simp] theorem peek_stream (sz : Nat) (c : UInt8) (r : Bytes) :
    streamSrc.peek ⟨sz, c :: r⟩ = some (c, ⟨sz, c :: r⟩) := rfl

@[simp] theorem readByte_stream (sz : Nat) (c : UInt8) (r : Bytes) :
    streamSrc.readByte ⟨sz, c :: r⟩ = some (c, ⟨sz, r⟩) := rfl

section
variable {σ : Type} (S : Src σ)

/-- what follows a type byte: consume it, decode the body with `dec`, wrap the result with `mk` -/
def typed {α : Type} (dec : σ → Option (α × σ)) (mk : α → Resp) (st : σ) : Option (Resp × σ) :=
  (S.readByte st).bind fun p => (dec p.2).bind fun q => some (mk q.1, q.2)

-- `by rfl`, here and for the `decode_stream_*` below: for the term `rfl` Lean unfolds `decode` once more, to make the
-- equation a `dsimp` lemma, which nothing needs
theorem decode_succ (f : Nat) (st : σ) : decode S (f + 1) st = (S.peek st).bind fun p =>
    if p.1 == tColon then typed S (decodeInt S) .int p.2
    else if p.1 == tPlus then typed S (decodeText S) .simple p.2
    else if p.1 == tMinus then typed S (decodeText S) .err p.2
    else if p.1 == tDollar then typed S (decodeBulk S) .bulk p.2
    else if p.1 == tStar then
      (S.readByte p.2).bind fun b => (decodeInt S b.2).bind fun r =>
        if r.1 < -1 then none else if r.1 > maxArrayLen then none else if r.1 == -1 then some (.arr none, r.2)
        else (decodeN (decode S f) r.1.toNat r.2).bind fun q => some (.arr (some q.1), q.2)
    else decodeInline S p.2 := by rfl
end

section
variable (sz f : Nat) (d : Bytes)

theorem decode_stream_int : decode streamSrc (f + 1) ⟨sz, tColon :: d⟩ =
    (decodeInt streamSrc ⟨sz, d⟩).bind fun r => some (.int r.1, r.2) := by rfl

theorem decode_stream_simple : decode streamSrc (f + 1) ⟨sz, tPlus :: d⟩ =
    (decodeText streamSrc ⟨sz, d⟩).bind fun r => some (.simple r.1, r.2) := by rfl

theorem decode_stream_err : decode streamSrc (f + 1) ⟨sz, tMinus :: d⟩ =
    (decodeText streamSrc ⟨sz, d⟩).bind fun r => some (.err r.1, r.2) := by rfl

theorem decode_stream_bulk : decode streamSrc (f + 1) ⟨sz, tDollar :: d⟩ =
    (decodeBulk streamSrc ⟨sz, d⟩).bind fun r => some (.bulk r.1, r.2) := by rfl

theorem decode_stream_arr : decode streamSrc (f + 1) ⟨sz, tStar :: d⟩ =
    (decodeInt streamSrc ⟨sz, d⟩).bind fun r =>
      if r.1 < -1 then none else if r.1 > maxArrayLen then none else if r.1 == -1 then some (.arr none, r.2)
      else (decodeN (decode streamSrc f) r.1.toNat r.2).bind fun q => some (.arr (some q.1), q.2) := by rfl

theorem decode_stream_inline (c : UInt8)
    (hc : (c != tColon && c != tPlus && c != tMinus && c != tDollar && c != tStar) = true) :
    decode streamSrc (f + 1) ⟨sz, c :: d⟩ = decodeInline streamSrc ⟨sz, c :: d⟩ := by
  simp only [Bool.and_eq_true, bne, Bool.not_eq_true'] at hc
  simp only [decode_succ, peek_stream, Option.bind_some, hc, Bool.false_eq_true, if_false]
end

theorem all_ne_LF {t : Bytes} (h : t.all (· != LF) = true) : ∀ c ∈ t, c ≠ LF := by
  rintro c hc rfl
  exact absurd (List.all_eq_true.mp h _ hc) (by decide)

theorem decodeInt_stream_len (sz : Nat) (hsz : 32 ≤ sz) (n : Nat) (hn : n < 2^63) (rest : Bytes) :
    decodeInt streamSrc ⟨sz, itoa n ++ (crlf ++ rest)⟩ = some ((n : Int), ⟨sz, rest⟩) :=
  decodeInt_stream sz hsz n (Int.le_trans (by decide) (Int.natCast_nonneg n))
    (Int.le_sub_one_of_lt (Int.ofNat_lt.mpr hn)) rest

/-- a length within its limit passes the guards in front of a bulk body or the members of an array -/
theorem len_guards {α : Type} {n limit : Nat} (h : n ≤ limit) (a b : Option α) :
    (if (n : Int) < -1 then none else if (n : Int) > (limit : Nat) then none else if (n : Int) == -1 then a else b) = b := by
  rw [if_neg (by omega), if_neg (Int.not_lt.mpr (Int.ofNat_le.mpr h)), if_neg (by simp)]

theorem decodeBulk_stream (sz : Nat) (hsz : 32 ≤ sz) (t : Bytes) (h : t.length ≤ maxBulkStringLen) (rest : Bytes) :
    decodeBulk streamSrc ⟨sz, itoa t.length ++ crlf ++ t ++ crlf ++ rest⟩ = some (some t, ⟨sz, rest⟩) := by
  have hi := decodeInt_stream_len sz hsz t.length (Nat.lt_of_le_of_lt h (by decide)) (t ++ (crlf ++ rest))
  simp only [List.append_assoc]
  simp only [decodeBulk, hi, Option.bind_eq_bind, Option.bind_some, len_guards h, Int.toNat_natCast, readFull_stream]
  simp [crlf]

theorem decodeBulk_stream_null (sz : Nat) (hsz : 32 ≤ sz) (rest : Bytes) :
    decodeBulk streamSrc ⟨sz, itoa (-1) ++ crlf ++ rest⟩ = some (none, ⟨sz, rest⟩) := by
  have hi := decodeInt_stream sz hsz (-1) (by decide) (by decide) rest
  rw [List.append_assoc, decodeBulk, hi]
  rfl

theorem depthList_bulks (l : List Bytes) : depthList (l.map fun t => Resp.bulk (some t)) = 0 := by
  induction l with
  | nil => rfl
  | cons a as ih => simp [depthList, depth, ih]

theorem wfList_bulks (l : List Bytes) (hl : ∀ u ∈ l, u.length ≤ maxBulkStringLen) :
    wfList (l.map fun u => Resp.bulk (some u)) = true := by
  induction l with
  | nil => rfl
  | cons a as ih => simp [wfList, wf, hl a (by simp), ih fun u hu => hl u (by simp [hu])]

/-- tokens joined by single spaces -/
def joinSP : List Bytes → Bytes
  | [] => []
  | [t] => t
  | t :: t' :: ts => t ++ SP :: joinSP (t' :: ts)

theorem joinSP_cons_cons (c : UInt8) (t : Bytes) (ts : List Bytes) : joinSP ((c :: t) :: ts) = c :: joinSP (t :: ts) := by
  cases ts <;> rfl

theorem splitOnSP_ne_nil (b : Bytes) : splitOnSP b ≠ [] := by
  fun_cases splitOnSP b <;> nofun

theorem splitOnSP_noSP (t : Bytes) (h : ∀ c ∈ t, c ≠ SP) : splitOnSP t = [t] := by
  induction t with
  | nil => simp [splitOnSP]
  | cons x xs ih =>
    have hx : (x == SP) = false := decide_eq_false (h x (List.mem_cons_self ..))
    have := ih (fun c hc => h c (by simp [hc]))
    simp [splitOnSP, this, hx]

theorem splitOnSP_append (t r : Bytes) (h : ∀ c ∈ t, c ≠ SP) :
    splitOnSP (t ++ SP :: r) = t :: splitOnSP r := by
  induction t with
  | nil =>
    simp only [List.nil_append, splitOnSP]
    cases hr : splitOnSP r with
    | nil => exact absurd hr (splitOnSP_ne_nil r)
    | cons a as => rfl
  | cons x xs ih =>
    have hx : (x == SP) = false := decide_eq_false (h x (List.mem_cons_self ..))
    have := ih (fun c hc => h c (by simp [hc]))
    simp [splitOnSP, this, hx]

theorem splitOnSP_joinSP (toks : List Bytes) (hne : toks ≠ []) (h : ∀ t ∈ toks, ∀ c ∈ t, c ≠ SP) :
    splitOnSP (joinSP toks) = toks := by
  fun_induction joinSP toks with
  | case1 => exact absurd rfl hne
  | case2 t => exact splitOnSP_noSP t (h t (by simp))
  | case3 t t' ts ih =>
    rw [splitOnSP_append t _ (h t (by simp)), ih (by simp) (fun u hu => h u (by simp [hu]))]

theorem splitSpaces_joinSP (toks : List Bytes) (hne : toks ≠ []) (h : ∀ t ∈ toks, ∀ c ∈ t, c ≠ SP)
    (hn : ∀ t ∈ toks, t ≠ []) : splitSpaces (joinSP toks) = toks := by
  rw [splitSpaces, splitOnSP_joinSP toks hne h, List.filter_eq_self]
  intro t ht
  simpa using hn t ht

theorem joinSP_no_LF (toks : List Bytes) (h : ∀ t ∈ toks, ∀ c ∈ t, c ≠ LF) : ∀ c ∈ joinSP toks, c ≠ LF := by
  fun_induction joinSP toks with
  | case1 => exact List.forall_mem_nil _
  | case2 t => exact h t (by simp)
  | case3 t t' ts ih =>
    exact List.forall_mem_append.mpr
      ⟨h t (by simp), List.forall_mem_cons.mpr ⟨by decide, ih fun u hu => h u (by simp [hu])⟩⟩

end SamVerif.Proofs.Resp
