import SamVerif.Model.ProcStop
import SamVerif.Proofs.Lts
namespace SamVerif.ProcStop

theorem isRun : Lts.IsRun step run := ⟨fun _ => rfl, fun s l ls => by rw [run]; cases step s l <;> rfl⟩

/-- The repaired order (`first`): the upstream is stopped, and with it every dispatched request answered, before the listener
closes the connection, so a closed connection means answered requests and a Stop past its second step (`ans`, `closedAns`,
`pcClosed`).  A loop that has left has closed quit (`rdQuit`, `wrQuit`); Stop returns only after both (`ret`). -/
structure Inv (p : P) : Prop where
  first : p.upstreamFirst = true
  cap : 0 < p.cap
  rdQuit : p.rd = .exited → p.quit = true
  wrQuit : p.wr = .exited → p.quit = true
  ans : p.stopPc ≥ 1 → p.answered = true
  closedAns : p.connClosed = true → p.answered = true ∧ p.stopPc ≥ 2
  pcClosed : p.stopPc ≥ 2 → p.connClosed = true
  bound : p.queued ≤ p.cap
  pcMax : p.stopPc ≤ 3
  ret : p.stopPc = 3 → p.rd = .exited ∧ p.wr = .exited

theorem inv_init (cap n : Nat) (hc : 0 < cap) : Inv { upstreamFirst := true, cap := cap, toRead := n } := by
  constructor <;> simp [hc]

theorem inv_step (p : P) (l : Label) (p' : P) (hi : Inv p) (hs : step p l = some p') : Inv p' := by
  cases hi
  revert hs; fun_cases step p l <;> rintro ⟨⟩ <;> grind [Inv]

/-- What is left to do once the listener has closed the connection.  `rEnqueue` takes the reader from `room` to `decode` and
adds a queued request: 5 > 2 + 2; `wTake` takes a queued request and the writer from `top` to `reply`: 2 > 2 - 1.  With the
connection closed `rDecode` is disabled, so nothing leads from `decode` back to `room`. -/
def mu (p : P) : Nat :=
  (match p.rd with | .room => 5 | .decode => 2 | .exited => 0) +
  (match p.wr with | .top => 1 | .reply => 2 | .exited => 0) + 2 * p.queued + (3 - p.stopPc)

theorem closed_step (p : P) (l : Label) (p' : P) (hi : Inv p) (hc : p.connClosed = true) (hs : step p l = some p') :
    p'.connClosed = true ∧ mu p' < mu p := by
  -- `first` says which of the two orders of Stop `step` follows; with the other clauses in context `simp_all` is much slower
  have h1 := hi.first
  clear hi
  revert hs; fun_cases step p l <;> rintro ⟨⟩ <;> simp_all [mu] <;> grind

/-- once the listener has closed the connection something can always move until Stop has returned -/
theorem progress (p : P) (hi : Inv p) (hc : p.connClosed = true) (hn : p.stopPc ≠ 3) :
    ∃ l, (step p l).isSome = true := by
  have hans := (hi.closedAns hc).1
  have hpc : p.stopPc = 2 := Nat.eq_of_le_of_lt_succ (hi.closedAns hc).2 (Nat.lt_of_le_of_ne hi.pcMax hn)
  cases hrd : p.rd with
  | decode => exact ⟨.rSeesClose, by simp [step.eq_def, hrd, hc]⟩
  | room =>
    by_cases hroom : p.queued < p.cap
    · exact ⟨.rEnqueue, by simp [step.eq_def, hrd, hroom]⟩
    · have hq : p.queued > 0 := Nat.lt_of_lt_of_le hi.cap (Nat.le_of_not_lt hroom)
      cases hwr : p.wr with
      | top => exact ⟨.wTake, by simp [step.eq_def, hwr, hq]⟩
      | reply => exact ⟨.wWriteFails, by simp [step.eq_def, hwr, hans, hc]⟩
      | exited => exact ⟨.rQuit, by simp [step.eq_def, hrd, hi.wrQuit hwr]⟩
  | exited =>
    have hquit := hi.rdQuit hrd
    cases hwr : p.wr with
    | top | reply => exact ⟨.wQuit, by simp [step.eq_def, hwr, hquit]⟩
    | exited => exact ⟨.stopWaited, by simp [step.eq_def, hi.first, hpc, hrd, hwr]⟩

end SamVerif.ProcStop
