/-
C12 helper lemmas: the table-driven CRC step of the generated `Gen.Crc.crc16`
equals the bitwise shift-register step, for every 16-bit state and every byte.

The 2^16 × 2^8 state/byte pairs are covered algebraically: the 8-fold shift
step is linear over xor (`bitStep8_xor`), the state with the input byte folded in
splits at the byte boundary (`split`), the low byte just shifts (`low_byte`), the
high byte selects the table row (`tab_row`, 256 rows).
-/
import SamVerif.Gen.Crc
import SamVerif.Spec.Crc
namespace SamVerif.Proofs.Crc
open SamVerif SamVerif.Spec.Crc

/-- `bitStep` is the xor of two maps that are each linear over xor. -/
theorem bitStep_xor (x y : BitVec 16) : bitStep (x ^^^ y) = bitStep x ^^^ bitStep y := by
  have eq (x : BitVec 16) : bitStep x = (x <<< 1) ^^^ (bif x.msb then 0x1021#16 else 0) := by
    unfold bitStep; cases x.msb
    · exact BitVec.xor_zero.symm
    · rfl
  have poly (a b : Bool) : (bif (a ^^ b) then 0x1021#16 else 0) =
      (bif a then 0x1021#16 else 0) ^^^ (bif b then 0x1021#16 else 0) := by
    cases a <;> cases b <;> rfl
  rw [eq, eq, eq, BitVec.msb_xor, BitVec.shiftLeft_xor_distrib, poly]
  ac_rfl

theorem bitStep8_xor (x y : BitVec 16) : bitStep8 (x ^^^ y) = bitStep8 x ^^^ bitStep8 y := by
  simp only [bitStep8, bitStep_xor]

/-- The table extracted from the source, row by row the remainder of its index byte.  As one equality of lists the kernel
walks the table once; stated row by row, as in `tab_row`, each of the 256 indexed accesses walks the list from its head. -/
theorem tab_toList : Gen.Crc.tab.toList =
    (List.range 256).map fun i => bitStep8 (BitVec.ofNat 16 i <<< 8) := by
  decide +kernel

theorem tab_row : ∀ i : Fin 256,
    Gen.Crc.tab.getD i.val 0#16 = bitStep8 (BitVec.ofNat 16 i.val <<< 8) := by
  intro i
  rw [Array.getD_eq_getD_getElem?, ← Array.getElem?_toList, tab_toList, List.getElem?_map,
    List.getElem?_range i.isLt, Option.map_some, Option.getD_some]

theorem tab_size : Gen.Crc.tab.size = 256 := by
  rw [← Array.length_toList, tab_toList, List.length_map, List.length_range]

theorem bitStep_of_lt (c : BitVec 16) (h : 2 * c.toNat < 2 ^ 16) : bitStep c = c <<< 1 :=
  if_neg (ne_true_of_eq_false (BitVec.msb_eq_false_iff_two_mul_lt.mpr h))

theorem repeat_bitStep_of_lt (c : BitVec 16) (k : Nat) (h : c.toNat <<< k < 2 ^ 16) :
    Nat.repeat bitStep k c = c <<< k := by
  induction k with
  | zero => exact (BitVec.shiftLeft_zero c).symm
  | succ k ih =>
    rw [Nat.shiftLeft_succ] at h
    have hk := Nat.lt_of_le_of_lt (Nat.le_mul_of_pos_left _ Nat.two_pos) h
    rw [Nat.repeat, ih hk, bitStep_of_lt, ← BitVec.shiftLeft_add]
    rwa [BitVec.toNat_shiftLeft, Nat.mod_eq_of_lt hk]

theorem low_byte (c : BitVec 16) (h : c.toNat < 256) : bitStep8 c = c <<< 8 := by
  -- with `f` a variable only `Nat.repeat` can unfold: `bitStep8 c =?= Nat.repeat bitStep 8 c` unfolds `bitStep` first,
  -- in the elaborator and in the kernel, and is slow
  have unroll (f : BitVec 16 → BitVec 16) : Nat.repeat f 8 c = f (f (f (f (f (f (f (f c))))))) := rfl
  refine (unroll bitStep).symm.trans (repeat_bitStep_of_lt c 8 ?_)
  rw [Nat.shiftLeft_eq]; exact Nat.mul_lt_mul_of_pos_right h (Nat.two_pow_pos 8)

theorem mask_split (c m : BitVec 16) : (c &&& m) ^^^ (c &&& ~~~m) = c := by
  ext i hi
  rw [BitVec.getElem_xor, BitVec.getElem_and, BitVec.getElem_and, BitVec.getElem_not, ← Bool.and_xor_distrib_left,
    Bool.xor_not_self, Bool.and_true]

/-- the state with the input byte folded in, split at the byte boundary: the table index and the low byte -/
theorem split_at_byte (c : BitVec 16) (b : BitVec 8) :
    c ^^^ (b.setWidth 16 <<< 8) = ((((c >>> 8) &&& 255#16) ^^^ b.setWidth 16) <<< 8) ^^^ (c &&& 255#16) := by
  rw [BitVec.shiftLeft_xor_distrib, BitVec.shiftLeft_and_distrib, BitVec.shiftLeft_ushiftRight, BitVec.and_assoc,
    BitVec.xor_assoc, BitVec.xor_comm (b.setWidth 16 <<< 8), ← BitVec.xor_assoc]
  -- the mask left on `c` is `allOnes <<< 8 &&& 255 <<< 8`, by evaluation 0xff00, the complement of 255
  exact congrArg (· ^^^ _) (mask_split c 0xff00#16).symm

theorem lowshift (c : BitVec 16) : (c &&& 0xff#16) <<< 8 = (c <<< 8) &&& 65280#16 :=
  BitVec.shiftLeft_and_distrib ..

theorem idx_lt (c : BitVec 16) (b : BitVec 8) : (((c >>> 8) &&& 255#16) ^^^ b.setWidth 16).toNat < 256 := by
  rw [BitVec.toNat_xor]
  exact Nat.xor_lt_two_pow (n := 8) (Nat.lt_succ_of_le Nat.and_le_right)
    (by rw [BitVec.toNat_setWidth]; exact Nat.lt_of_le_of_lt (Nat.mod_le _ _) b.isLt)

theorem lo_lt (c : BitVec 16) : (c &&& 0xff#16).toNat < 256 := Nat.lt_succ_of_le Nat.and_le_right

theorem step_eq (c : BitVec 16) (b : BitVec 8) :
    (((c <<< 8) &&& 65280#16) ^^^
      (Gen.Crc.tab.getD (((c >>> 8) &&& 255#16) ^^^ (b.setWidth 16)).toNat 0#16)) = byteStep c b := by
  have h1 := tab_row ⟨_, idx_lt c b⟩
  rw [BitVec.ofNat_toNat, BitVec.setWidth_eq] at h1
  rw [byteStep, split_at_byte, bitStep8_xor, low_byte _ (lo_lt c), lowshift, h1, BitVec.xor_comm]

end SamVerif.Proofs.Crc
