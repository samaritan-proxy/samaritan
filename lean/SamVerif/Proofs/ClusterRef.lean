import SamVerif.Drive.Cluster
/-! The executable reference semantics of the scripted-cluster runs (`Drive.Cluster`), which the differential runs of
C03/C04/C07 compare the proxy with, against the proven redirection model: in a calm cluster the reference's walk *is*
`Upstream.follow`. -/
namespace SamVerif.Drive.Cluster
open SamVerif.Upstream

/-- the state of one slot as the reference sees it -/
def truthOf (c : Cl) (s : Nat) : Truth :=
  { owner := c.owner s, target := (c.migr.find? (fun m => m.1 == s && m.2.1 == c.owner s)).map (·.2.2) }

/-- a cluster in which every node is reachable at the address the proxy knows and no node has a lagging view -/
def Calm (c : Cl) : Prop := (∀ n, c.up n = true) ∧ c.staleAddr = [] ∧ c.beliefs = []

theorem routeFrom_eq_follow (c : Cl) (hc : Calm c) (s : Nat) (k : Bytes) (present : Bool) :
    ∀ (fuel node : Nat) (asking : Bool) (hops : Nat) (via : Bool) (n r : Nat),
      follow (truthOf c s) (present && !c.movedKeys.contains k) fuel node asking = some (n, r) →
      routeFrom c s k present fuel node asking hops via = (some n, hops + r, decide (hops + r > 0)) := by
  obtain ⟨hup, hst, hbel⟩ := hc
  intro fuel node asking
  unfold truthOf
  -- along `follow`'s own recursion: each case comes with what the node answered
  fun_induction follow with
  | case1 => intro _ _ _ _ h; cases h
  | case2 f node asking ha =>
    rintro hops via n r ⟨⟩
    -- `ha` speaks of `contains`: simp must not turn the goal's into `∈`
    simp [routeFrom, hup, hst, -List.contains_eq_mem, ha]
  | case3 f node asking m ha ih | case4 f node asking m ha ih =>
    intro hops via n r h
    obtain ⟨⟨n', r'⟩, hf, ⟨⟩⟩ := Option.map_eq_some_iff.mp h
    simp [routeFrom, hup, hst, hbel, -List.contains_eq_mem, ha, ih (hops + 1) false _ _ hf, Nat.add_assoc, Nat.add_comm 1]
end SamVerif.Drive.Cluster
