import SamVerif.Model.TableReplace
import SamVerif.Proofs.Lts
namespace SamVerif.TableReplace

theorem isRun : Lts.IsRun step run := ⟨fun _ => rfl, fun s l ls => by rw [run]; cases step s l <;> rfl⟩

/-- Whatever runs is the table's connection (`inTable`), so `create` starts from nothing running and `replaceAll`/`stop` leave
nothing running; identifiers in use are below `next` (`runningLt`, `stoppingLt`), so a new connection is none of those being
stopped (`apart`). -/
structure Inv (s : T) : Prop where
  repaired : s.old = false
  inTable : ∀ id ∈ s.running, s.table = some id
  apart : ∀ id ∈ s.running, id ∉ s.stopping
  runningLt : ∀ id ∈ s.running, id < s.next
  stoppingLt : ∀ id ∈ s.stopping, id < s.next

theorem inv_init : Inv {} := by constructor <;> simp

theorem inv_step (s : T) (l : Label) (s' : T) (h : Inv s) (hs : step s l = some s') : Inv s' := by
  revert hs; fun_cases step s l <;> rintro ⟨⟩ <;> grind [Inv]

theorem inv_reach {ls : List Label} {s : T} (hr : run {} ls = some s) : Inv s := isRun.inv inv_step inv_init hr

end SamVerif.TableReplace
