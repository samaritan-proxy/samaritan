import SamVerif.Model.SessFlush
import SamVerif.Proofs.Lts
namespace SamVerif.SessFlush

theorem isRun : Lts.IsRun step run := ⟨fun _ => rfl, fun s l ls => by rw [run]; cases step s l <;> rfl⟩

/-- With the repair of F-01b (`old = false`) the writer flushes in `look` before it waits, so a waiting writer has an empty
buffer; and `encode` flushes when the queue is empty, so an idle writer with nothing queued has one too. -/
def Inv (s : W) : Prop :=
  s.old = false ∧ (∀ id, s.pc = .waiting id → s.buf = []) ∧ (s.pc = .idle → s.queue = [] → s.buf = [])

theorem inv_step (s : W) (l : Label) (s' : W) (h : Inv s) (hs : step s l = some s') : Inv s' := by
  obtain ⟨ho, hw, hi⟩ := h
  revert hs; fun_cases step s l <;> rintro ⟨⟩ <;> refine ⟨ho, ?_, ?_⟩ <;> simp_all

end SamVerif.SessFlush
