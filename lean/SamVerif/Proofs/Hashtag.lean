/-
C12 helper lemmas: an index loop of the generated `hashtag` is a `findIdx` (`scan_eq`), a slice is a `drop`/`take`; the
specification's tag of a key with a tag (`hashtag_tagged`).
-/
import SamVerif.Gen.Crc
import SamVerif.Spec.Crc
namespace SamVerif.Proofs.Hashtag
open SamVerif

theorem byteAt_eq (b : List UInt8) (i : Nat) (c : UInt8) (h : i < b.length) :
    (Go.byteAt b i == c.toBitVec) = (b[i] == c) := by
  rw [Go.byteAt, List.getD_eq_getElem?_getD, List.getElem?_eq_getElem h, Option.getD_some]
  exact decide_eq_decide.mpr UInt8.toBitVec_inj

theorem scan_eq (b : List UInt8) (c : UInt8) (a : Nat) (ha : a ≤ b.length) :
    Go.scanFrom (fun i => Go.byteAt b i == c.toBitVec) a b.length
      = a + (b.drop a).findIdx (· == c) := by
  fun_induction Go.scanFrom (fun i => Go.byteAt b i == c.toBitVec) a b.length with
  | case1 a h hp =>
    rw [byteAt_eq b a c h] at hp
    rw [List.drop_eq_getElem_cons h, List.findIdx_cons, hp]; rfl
  | case2 a h hp ih =>
    rw [byteAt_eq b a c h, Bool.not_eq_true] at hp
    rw [ih h, List.drop_eq_getElem_cons h, List.findIdx_cons, hp]
    exact Nat.add_right_comm a 1 _
  | case3 a h => rw [List.drop_eq_nil_of_le (Nat.not_lt.mp h)]; rfl

theorem slice_drop_take (key : List UInt8) (a n : Nat) :
    Go.slice key a (a + n) = (key.drop a).take n := by
  rw [Go.slice, List.drop_take, Nat.add_sub_cancel_left]

theorem hashtag_tagged (pre tag suf : List UInt8)
    (hpre : ∀ x ∈ pre, x ≠ 0x7b) (htag : ∀ x ∈ tag, x ≠ 0x7d) (hne : tag ≠ []) :
    Spec.Crc.hashtag (pre ++ [0x7b] ++ tag ++ [0x7d] ++ suf) = tag := by
  -- given by hand: the search for this instance goes through the order classes first, here and again inside `simp`
  have : LawfulBEq UInt8 := instLawfulBEq
  have hp : ∀ x ∈ pre, (x != 0x7b) = true := fun x hx => bne_iff_ne.mpr (hpre x hx)
  have ht : ∀ x ∈ tag, (x != 0x7d) = true := fun x hx => bne_iff_ne.mpr (htag x hx)
  simp only [Spec.Crc.hashtag.eq_def, List.append_assoc, List.dropWhile_append_of_pos hp]
  simp [List.takeWhile_append_of_pos ht, hne]

end SamVerif.Proofs.Hashtag
