/-
The three operations of the frequency list (C19) are built from two moves: a key *joins* the node of
frequency `f + 1` at the head of a list whose frequencies are above `f` (`join`; admission is
`join 0`), and a node is kept only while it has keys (`consNE`).  Each move has one lemma for the keys
(as a multiset), one for `lookup` and one for the shape; those about `promote`, `admitKey` and `evict`
follow.
-/
import SamVerif.Model.Hotkey
namespace SamVerif.Proofs.Hotkey
open SamVerif.Hotkey

def consNE (f : Nat) (ks : List Nat) (ns : Nodes) : Nodes := if ks.isEmpty then ns else (f, ks) :: ns

def join (f k : Nat) : Nodes → Nodes
  | (g, gs) :: more => if g = f + 1 then (g, gs ++ [k]) :: more else (f + 1, [k]) :: (g, gs) :: more
  | [] => [(f + 1, [k])]

theorem promote_cons (k f : Nat) (ks : List Nat) (rest : Nodes) : promote k ((f, ks) :: rest) =
    if ks.contains k then consNE f (ks.filter (· != k)) (join f k rest) else (f, ks) :: promote k rest := by
  cases rest <;> rfl

theorem admitKey_eq (k : Nat) (ns : Nodes) : admitKey k ns = join 0 k ns := by
  fun_cases join 0 k ns
  · rfl
  · simp_all [admitKey.eq_def]
  · rfl

theorem evict_eq_some {ns ns' : Nodes} (h : evict ns = some ns') :
    ∃ f v vs rest, ns = (f, v :: vs) :: rest ∧ ns' = consNE f vs rest := by
  fun_cases evict ns
  · cases h
  · cases h
  · exact ⟨_, _, _, _, rfl, (Option.some.inj h).symm⟩

@[simp] theorem keysOf_nil : keysOf [] = [] := rfl
@[simp] theorem keysOf_cons (n : Nat × List Nat) (ns : Nodes) : keysOf (n :: ns) = n.2 ++ keysOf ns := rfl

@[simp] theorem keysOf_consNE (f : Nat) (ks : List Nat) (ns : Nodes) : keysOf (consNE f ks ns) = ks ++ keysOf ns := by
  cases ks <;> rfl

theorem keysOf_join (f k : Nat) (ns : Nodes) : (keysOf (join f k ns)).Perm (k :: keysOf ns) := by
  fun_cases join f k ns <;> simp [List.perm_middle]

theorem keysOf_promote (k : Nat) (ns : Nodes) : (keysOf ns).Nodup → k ∈ keysOf ns →
    (keysOf (promote k ns)).Perm (keysOf ns) := by
  induction ns with
  | nil => exact fun _ h => nomatch h
  | cons n rest ih =>
    obtain ⟨f, ks⟩ := n
    intro hn hk
    rw [promote_cons]
    simp only [keysOf_cons, List.nodup_append, List.mem_append] at hn hk
    split
    · rename_i hc
      have hks := List.perm_cons_erase (List.contains_iff_mem.mp hc)
      rw [hn.1.erase_eq_filter] at hks
      simp only [keysOf_consNE]
      exact ((keysOf_join f k rest).append_left _).trans (List.perm_middle.trans (hks.symm.append_right _))
    · rename_i hc
      have hk' : k ∈ keysOf rest := hk.resolve_left (fun h => hc (List.contains_iff_mem.mpr h))
      exact (ih hn.2.1 hk').append_left ks

@[simp] theorem lookup_nil (j : Nat) : lookup [] j = none := rfl
theorem lookup_cons (n : Nat × List Nat) (ns : Nodes) (j : Nat) :
    lookup (n :: ns) j = if n.2.contains j then some n.1 else lookup ns j := by
  rw [lookup, List.find?_cons]
  cases n.2.contains j <;> rfl

theorem lookup_consNE (f : Nat) (ks : List Nat) (ns : Nodes) (j : Nat) :
    lookup (consNE f ks ns) j = if ks.contains j then some f else lookup ns j := by
  cases ks
  · rfl
  · exact lookup_cons ..

theorem lookup_join (f k : Nat) (ns : Nodes) (j : Nat) :
    lookup (join f k ns) j = if j = k then some (f + 1) else lookup ns j := by
  fun_cases join f k ns <;> by_cases hj : j = k <;> simp [lookup_cons, *]

theorem lookup_promote (k j : Nat) (ns : Nodes) :
    lookup (promote k ns) j = if j = k then (lookup ns k).map (· + 1) else lookup ns j := by
  induction ns with
  | nil => exact (ite_self none).symm
  | cons n rest ih =>
    obtain ⟨f, ks⟩ := n
    rw [promote_cons]
    split
    · by_cases hj : j = k <;> simp_all [lookup_consNE, lookup_join, lookup_cons]
    · rw [lookup_cons, ih]
      by_cases hj : j = k <;> simp_all [lookup_cons]

theorem lookup_isSome (ns : Nodes) (k : Nat) : (lookup ns k).isSome = (keysOf ns).contains k := by
  induction ns with
  | nil => rfl
  | cons n ns ih => rw [lookup_cons, keysOf_cons, List.contains_append, ← ih]; cases n.2.contains k <;> rfl

/-- shape invariant: no empty node, frequencies ≥ 1 and strictly ascending -/
def Shape (ns : Nodes) : Prop :=
  (∀ n ∈ ns, n.2 ≠ [] ∧ 1 ≤ n.1) ∧ ns.Pairwise (fun a b => a.1 < b.1)

/-- `Shape ns` is `Above 0 ns` by definition, and the lemmas below use it so.  The bound is what an induction along
the list carries (`above_cons`). -/
def Above (lb : Nat) (ns : Nodes) : Prop :=
  (∀ n ∈ ns, n.2 ≠ [] ∧ lb < n.1) ∧ ns.Pairwise (fun a b => a.1 < b.1)

theorem above_nil (lb : Nat) : Above lb [] := ⟨nofun, .nil⟩

theorem above_cons {lb f : Nat} {ks : List Nat} {ns : Nodes} :
    Above lb ((f, ks) :: ns) ↔ ks ≠ [] ∧ lb < f ∧ Above f ns := by
  simp only [Above, List.forall_mem_cons, List.pairwise_cons]
  constructor
  · rintro ⟨⟨⟨h1, h2⟩, h3⟩, h4, h5⟩
    exact ⟨h1, h2, fun n hn => ⟨(h3 n hn).1, h4 n hn⟩, h5⟩
  · rintro ⟨h1, h2, h3, h4⟩
    exact ⟨⟨⟨h1, h2⟩, fun n hn => ⟨(h3 n hn).1, Nat.lt_trans h2 (h3 n hn).2⟩⟩, fun n hn => (h3 n hn).2, h4⟩

theorem Above.mono {lb f : Nat} {ns : Nodes} (h : Above f ns) (hle : lb ≤ f) : Above lb ns :=
  ⟨fun n hn => ⟨(h.1 n hn).1, Nat.lt_of_le_of_lt hle (h.1 n hn).2⟩, h.2⟩

theorem above_consNE {lb f : Nat} {ks : List Nat} {ns : Nodes} (hf : lb < f) (h : Above f ns) :
    Above lb (consNE f ks ns) := by
  cases ks
  · exact h.mono (Nat.le_of_lt hf)
  · exact above_cons.mpr ⟨nofun, hf, h⟩

theorem above_join {f : Nat} (k : Nat) {ns : Nodes} (h : Above f ns) : Above f (join f k ns) := by
  fun_cases join f k ns
  · exact above_cons.mpr ⟨by simp, (above_cons.mp h).2⟩
  · obtain ⟨hgs, hfg, hm⟩ := above_cons.mp h
    exact above_cons.mpr ⟨by simp, Nat.lt_succ_self f, above_cons.mpr ⟨hgs, Nat.lt_of_le_of_ne hfg (Ne.symm ‹_›), hm⟩⟩
  · exact above_cons.mpr ⟨by simp, Nat.lt_succ_self f, above_nil _⟩

theorem above_promote (k : Nat) {lb : Nat} {ns : Nodes} (h : Above lb ns) : Above lb (promote k ns) := by
  induction ns generalizing lb with
  | nil => exact h
  | cons n rest ih =>
    obtain ⟨f, ks⟩ := n
    obtain ⟨hks, hf, hr⟩ := above_cons.mp h
    rw [promote_cons]
    split
    · exact above_consNE hf (above_join k hr)
    · exact above_cons.mpr ⟨hks, hf, ih hr⟩

theorem keysOf_admitKey (k : Nat) (ns : Nodes) : (keysOf (admitKey k ns)).Perm (k :: keysOf ns) :=
  admitKey_eq k ns ▸ keysOf_join 0 k ns

theorem keysOf_evict {ns ns' : Nodes} (h : evict ns = some ns') : ∃ v, keysOf ns = v :: keysOf ns' := by
  obtain ⟨f, v, vs, rest, rfl, rfl⟩ := evict_eq_some h
  exact ⟨v, by simp⟩

theorem shape_promote (k : Nat) {ns : Nodes} (h : Shape ns) : Shape (promote k ns) := above_promote k h

theorem shape_admitKey (k : Nat) {ns : Nodes} (h : Shape ns) : Shape (admitKey k ns) :=
  admitKey_eq k ns ▸ above_join k h

theorem shape_evict {ns ns' : Nodes} (h : Shape ns) (he : evict ns = some ns') : Shape ns' := by
  obtain ⟨f, v, vs, rest, rfl, rfl⟩ := evict_eq_some he
  obtain ⟨-, hf, hr⟩ := above_cons.mp h
  exact above_consNE hf hr

theorem evict_some_of_shape {ns : Nodes} (h : Shape ns) (hne : ns ≠ []) : ∃ ns', evict ns = some ns' := by
  fun_cases evict ns
  · exact absurd rfl hne
  · exact absurd rfl (above_cons.mp h).1
  · exact ⟨_, rfl⟩

end SamVerif.Proofs.Hotkey
