import SamVerif.Model.Client
import SamVerif.Proofs.Lts
/-! The backend-connection transition system of C02 in rule form (`Step`), and its invariant, re-established rule by rule. -/
namespace SamVerif.Client

theorem isRun : Lts.IsRun step run := ⟨fun _ => rfl, fun s l ls => by rw [run]; cases step s l <;> rfl⟩

def ansIds (s : Cl) : List Nat := s.answered.map (·.1)

/-- how many times `id` is somewhere on this connection: in flight or completed -/
def cnt (s : Cl) (id : Nat) : Nat := (places s).count id + (ansIds s).count id

def lateStarter (p : SPc) : Prop := p = .lockDrain ∨ p = .drain ∨ p = .finished

structure Inv (s : Cl) : Prop where
  /-- every Send call is in exactly one place -/
  part : ∀ id, cnt s id = s.accepted.count id
  fresh : ∀ id, s.accepted.count id ≤ 1
  drainedNoLocked : s.drained = true → s.locked = []
  readerGone : s.starter ≠ .waitReader → s.reader = .exited ∧ s.quit = true
  writerGone : lateStarter s.starter → s.writer = .exited
  drainedIff : s.drained = true ↔ (s.starter = .drain ∨ s.starter = .finished)
  finishedEmpty : s.starter = .finished → s.pending = [] ∧ s.processing = []
  doneIff : s.done = true ↔ s.starter = .finished
  quitConn : s.quit = true → s.connOk = false

def init (cap : Nat) : Cl := { cap := cap }

/-- The start states: `init cap`, or with any requests marked abortable (no rule changes that mark, so from `init cap`
itself `turnAbort` and `sendAbort` are never enabled). -/
theorem inv_init (cap : Nat) (ab : List Nat) : Inv { cap := cap, abortable := ab } := by
  constructor <;> simp [cnt, places, inWriter, ansIds, lateStarter]

/-- `step` in rule form: one rule per branch of `step` that returns `some`. -/
inductive Step : Cl → Label → Cl → Prop
  | sendBegin {s id} : id ∉ s.accepted →
      Step s (.sendBegin id) { s with accepted := id :: s.accepted, waiting := id :: s.waiting }
  | turnTakeDrained {s id} : id ∈ s.waiting → s.locked = [] → s.drained = true →
      Step s (.turnTake id) (answer { s with waiting := s.waiting.erase id } id .error)
  | turnTake {s id} : id ∈ s.waiting → s.locked = [] → s.drained = false →
      Step s (.turnTake id) { s with waiting := s.waiting.erase id, locked := [id] }
  | turnQuit {s id} : id ∈ s.waiting → s.quit = true →
      Step s (.turnQuit id) (answer { s with waiting := s.waiting.erase id } id .error)
  | turnAbort {s id} : id ∈ s.waiting → id ∈ s.abortable →
      Step s (.turnAbort id) (answer { s with waiting := s.waiting.erase id } id .error)
  | sendEnq {s id} : id ∈ s.locked → s.pending.length < s.cap →
      Step s (.sendEnq id) { s with locked := s.locked.erase id, pending := s.pending ++ [id] }
  | sendQuit {s id} : id ∈ s.locked → s.quit = true →
      Step s (.sendQuit id) (answer { s with locked := s.locked.erase id } id .error)
  | sendAbort {s id} : id ∈ s.locked → id ∈ s.abortable →
      Step s (.sendAbort id) (answer { s with locked := s.locked.erase id } id .error)
  | wTake {s id rest} : s.writer = .top → s.pending = id :: rest →
      Step s .wTake { s with writer := .hold id, pending := rest }
  | wQuitTop {s} : s.writer = .top → s.quit = true →
      Step s .wQuitTop { s with writer := .exited, connOk := false, quit := true }
  | wFilterStop {s id} : s.writer = .hold id →
      Step s .wFilterStop (answer { s with writer := .top, unflushed := if s.pending = [] then [] else s.unflushed } id .error)
  | wEncodeOk {s id} : s.writer = .hold id →
      Step s .wEncodeOk { s with writer := .handoff id, unflushed := if s.pending = [] then [] else s.unflushed ++ [id] }
  | wEncodeFail {s id} : s.writer = .hold id →
      Step s .wEncodeFail (answer { s with writer := .exited, connOk := false, quit := true } id .error)
  | wHandoff {s id} : s.writer = .handoff id → s.processing.length < s.cap →
      Step s .wHandoff { s with writer := .top, processing := s.processing ++ [id] }
  | wHandoffQuit {s id} : s.writer = .handoff id → s.quit = true →
      Step s .wHandoffQuit (answer { s with writer := .exited, connOk := false, quit := true } id .error)
  | rDecodeOk {s} : s.reader = .decode → Step s .rDecodeOk { s with reader := .have }
  | rDecodeErr {s} : s.reader = .decode → Step s .rDecodeErr { s with reader := .exited }
  | rPair {s id rest} : s.reader = .have → s.processing = id :: rest →
      Step s .rPair (answer { s with reader := .decode, processing := rest } id .reply)
  | rPairQuit {s} : s.reader = .have → s.quit = true → Step s .rPairQuit { s with reader := .exited }
  | sReaderGone {s} : s.starter = .waitReader → s.reader = .exited →
      Step s .sReaderGone { s with starter := .waitWriter, quit := true, connOk := false }
  | sWriterGone {s} : s.starter = .waitWriter → s.writer = .exited →
      Step s .sWriterGone { s with starter := .lockDrain }
  | sLock {s} : s.starter = .lockDrain → s.locked = [] →
      Step s .sLock { s with starter := .drain, drained := true }
  | sDrainPending {s id rest} : s.starter = .drain → s.pending = id :: rest →
      Step s .sDrainPending (answer { s with pending := rest } id .error)
  | sDrainProcessing {s id rest} : s.starter = .drain → s.processing = id :: rest →
      Step s .sDrainProcessing (answer { s with processing := rest } id .error)
  | sDrainDone {s} : s.starter = .drain → s.pending = [] → s.processing = [] →
      Step s .sDrainDone { s with starter := .finished, done := true }
  | stop {s} : Step s .stop { s with quit := true, connOk := false }
  | connBreak {s} : Step s .connBreak { s with connOk := false }

/-- The guards of `step` arrive as `step` writes them: conjunctions (`simp only [*]`), and `¬ drained = true` for the
rule's `drained = false`. -/
theorem Step.of_step {s s' : Cl} {l : Label} (h : step s l = some s') : Step s l s' := by
  revert h
  fun_cases step s l <;> intro h <;> cases h <;> constructor <;>
    first | assumption | simp only [*] | exact Bool.eq_false_iff.mpr ‹_›

theorem count_erase_add {l : List Nat} {a : Nat} (h : a ∈ l) (id : Nat) :
    (l.erase a).count id + (if a == id then 1 else 0) = l.count id := by
  rw [(List.perm_cons_erase h).count_eq, List.count_cons]

theorem length_erase_add_one {l : List Nat} {a : Nat} (h : a ∈ l) : (l.erase a).length + 1 = l.length :=
  (List.perm_cons_erase h).length_eq.symm

theorem ansIds_answer (s : Cl) (a : Nat) (h : How) (id : Nat) :
    (ansIds (answer s a h)).count id = (ansIds s).count id + (if a == id then 1 else 0) := by
  simp only [ansIds, answer, List.map_append, List.map_cons, List.map_nil, List.count_append, List.count_singleton]

@[simp] theorem answer_locked (s : Cl) (a : Nat) (h : How) : (answer s a h).locked = s.locked := rfl
@[simp] theorem answer_waiting (s : Cl) (a : Nat) (h : How) : (answer s a h).waiting = s.waiting := rfl
@[simp] theorem answer_pending (s : Cl) (a : Nat) (h : How) : (answer s a h).pending = s.pending := rfl
@[simp] theorem answer_processing (s : Cl) (a : Nat) (h : How) : (answer s a h).processing = s.processing := rfl
@[simp] theorem answer_accepted (s : Cl) (a : Nat) (h : How) : (answer s a h).accepted = s.accepted := rfl
@[simp] theorem answer_writer (s : Cl) (a : Nat) (h : How) : (answer s a h).writer = s.writer := rfl
@[simp] theorem inWriter_answer (s : Cl) (a : Nat) (h : How) : inWriter (answer s a h) = inWriter s := rfl

theorem cnt_def (s : Cl) (id : Nat) :
    cnt s id = s.waiting.count id + s.locked.count id + s.pending.count id + (inWriter s).count id + s.processing.count id + (ansIds s).count id := by
  simp only [cnt, places, List.count_append]

theorem lateStarter_cases {p : SPc} : lateStarter p ↔ (p = .lockDrain ∨ p = .drain ∨ p = .finished) := Iff.rfl

/-- Every rule but `sendBegin` moves one request from one place to another (`answered` being the last place) or none:
both sides become the same sum up to the order of the summands. -/
theorem part_step {s s' : Cl} {l : Label} (h : Step s l s') (hp : ∀ id, cnt s id = s.accepted.count id) (id : Nat) :
    cnt s' id = s'.accepted.count id := by
  have hp := hp id
  rw [cnt_def] at hp ⊢
  cases h with
  | sendBegin => simp +arith only [inWriter, ansIds, List.count_cons, ← hp]
  | turnTake hm hl =>
    simp +arith only [inWriter, ansIds, List.count_cons, List.count_nil, hl, ← hp, ← count_erase_add hm id]
  | turnTakeDrained hm | turnQuit hm | turnAbort hm | sendEnq hm | sendQuit hm | sendAbort hm =>
    simp +arith only [answer, inWriter, ansIds, List.map_append, List.map_cons, List.map_nil, List.count_append,
      List.count_singleton, ← hp, ← count_erase_add hm id]
  | wTake hw hq | wQuitTop hw hq | wHandoff hw hq | wHandoffQuit hw hq | rPair hw hq | sDrainPending hw hq
  | sDrainProcessing hw hq =>
    simp +arith only [answer, inWriter, ansIds, List.map_append, List.map_cons, List.map_nil, List.count_append,
      List.count_cons, List.count_nil, hw, hq, ← hp]
  | wFilterStop hw | wEncodeOk hw | wEncodeFail hw =>
    simp +arith only [answer, inWriter, ansIds, List.map_append, List.map_cons, List.map_nil, List.count_append,
      List.count_cons, List.count_nil, hw, ← hp]
  | _ => exact hp

/-- Rule by rule, the clauses that read a field the rule writes; the others are `hi`'s as they stand, up to unfolding the record
update.  The starter's rules move `starter` one stage on, so they owe every clause that asks where the starter is. -/
theorem Inv.step {s s' : Cl} {l : Label} (hi : Inv s) (h : Step s l s') : Inv s' := by
  have part := part_step h hi.part
  cases h with
  | sendBegin ha =>
    refine { hi with part, fresh := fun id => ?_ }
    rw [List.count_cons]; split
    · next e => cases eq_of_beq e; rw [List.count_eq_zero.mpr ha]; exact Nat.le_refl 1
    · exact hi.fresh id
  | turnTakeDrained | turnQuit | turnAbort => exact { hi with part }
  | turnTake _ _ hd => exact { hi with part, drainedNoLocked := fun h => absurd (hd ▸ h) Bool.false_ne_true }
  | sendEnq hm =>
    have nd (h : s.drained = true) : False := by rw [hi.drainedNoLocked h] at hm; cases hm
    exact { hi with part, drainedNoLocked := fun h => (nd h).elim, finishedEmpty := fun h => (nd (hi.drainedIff.mpr (.inr h))).elim }
  | sendQuit hm | sendAbort hm =>
    exact { hi with part, drainedNoLocked := fun h => by rw [hi.drainedNoLocked h] at hm; cases hm }
  | wTake hw | wHandoff hw =>
    exact { hi with
      part
      writerGone := fun h => by rw [hi.writerGone h] at hw; cases hw
      finishedEmpty := fun h => by rw [hi.writerGone (.inr (.inr h))] at hw; cases hw }
  | wFilterStop hw | wEncodeOk hw => exact { hi with part, writerGone := fun h => by rw [hi.writerGone h] at hw; cases hw }
  | wQuitTop | wEncodeFail | wHandoffQuit =>
    exact { hi with part, readerGone := fun h => ⟨(hi.readerGone h).1, rfl⟩, writerGone := fun _ => rfl, quitConn := fun _ => rfl }
  | rDecodeOk hr => exact { hi with readerGone := fun h => by rw [(hi.readerGone h).1] at hr; cases hr }
  | rPair hr hq =>
    exact { hi with
      part
      readerGone := fun h => by rw [(hi.readerGone h).1] at hr; cases hr
      finishedEmpty := fun h => by rw [(hi.finishedEmpty h).2] at hq; cases hq }
  | rDecodeErr | rPairQuit => exact { hi with readerGone := fun h => ⟨rfl, (hi.readerGone h).2⟩ }
  | sReaderGone hs hr =>
    exact { hi with
      readerGone := fun _ => ⟨hr, rfl⟩
      writerGone := fun h => by rcases h with h | h | h <;> cases h
      drainedIff := by simpa [hs] using hi.drainedIff
      finishedEmpty := fun h => nomatch h
      doneIff := by simpa [hs] using hi.doneIff
      quitConn := fun _ => rfl }
  | sWriterGone hs hw =>
    exact { hi with
      readerGone := fun _ => hi.readerGone (by rw [hs]; decide)
      writerGone := fun _ => hw
      drainedIff := by simpa [hs] using hi.drainedIff
      finishedEmpty := fun h => nomatch h
      doneIff := by simpa [hs] using hi.doneIff }
  | sLock hs hl =>
    exact { hi with
      drainedNoLocked := fun _ => hl
      readerGone := fun _ => hi.readerGone (by rw [hs]; decide)
      writerGone := fun _ => hi.writerGone (.inl hs)
      drainedIff := by simp
      finishedEmpty := fun h => nomatch h
      doneIff := by simpa [hs] using hi.doneIff }
  | sDrainPending hs | sDrainProcessing hs => exact { hi with part, finishedEmpty := fun h => by rw [hs] at h; cases h }
  | sDrainDone hs hp hq =>
    exact { hi with
      readerGone := fun _ => hi.readerGone (by rw [hs]; decide)
      writerGone := fun _ => hi.writerGone (.inr (.inl hs))
      drainedIff := by simpa using hi.drainedIff.mpr (.inl hs)
      finishedEmpty := fun _ => ⟨hp, hq⟩
      doneIff := by simp }
  | stop => exact { hi with readerGone := fun h => ⟨(hi.readerGone h).1, rfl⟩, quitConn := fun _ => rfl }
  | connBreak => exact { hi with quitConn := fun _ => rfl }

/-- `Inv`, the constant capacity, and two facts about the writer that no clause of `Inv` needs -/
structure Good (cap : Nat) (s : Cl) : Prop extends Inv s where
  capEq : s.cap = cap
  /-- the writer never leaves without closing the quit latch -/
  wq : s.writer = .exited → s.quit = true
  /-- the write buffer holds something only while the writer still has a request to write -/
  wb : (s.writer = .top ∨ ∃ id, s.writer = .handoff id) → s.pending = [] → s.unflushed = []

theorem Step.quit_mono {s s' : Cl} {l : Label} (h : Step s l s') (hq : s.quit = true) : s'.quit = true := by
  cases h <;> first | exact hq | rfl

/-- `wb`: `pending` shrinks only in the writer's hand (`wTake`) or in the final drain, which starts after the writer has left. -/
theorem Good.step {cap : Nat} {s s' : Cl} {l : Label} (hg : Good cap s) (h : Step s l s') : Good cap s' := by
  have hi := hg.toInv.step h
  cases h with
  | sendEnq =>
    exact { hi, hg with wb := fun _ h => absurd h (List.append_ne_nil_of_right_ne_nil _ (List.cons_ne_nil _ _)) }
  | wTake => exact { hi, hg with wq := fun h => (nomatch h), wb := fun h => by simp at h }
  | wFilterStop | wEncodeOk => exact { hi, hg with wq := fun h => (nomatch h), wb := fun _ h => if_pos h }
  | wHandoff hw => exact { hi, hg with wq := fun h => (nomatch h), wb := fun _ => hg.wb (.inr ⟨_, hw⟩) }
  | wQuitTop | wEncodeFail | wHandoffQuit => exact { hi, hg with wq := fun _ => rfl, wb := fun h => by simp at h }
  | sReaderGone | stop => exact { hi, hg with wq := fun _ => rfl }
  | sDrainPending hs => exact { hi, hg with wb := fun h => by rw [hg.writerGone (.inr (.inl hs))] at h; simp at h }
  | _ => exact { hi, hg with }

theorem inv_step (s : Cl) (l : Label) (s' : Cl) (hi : Inv s) (hs : step s l = some s') : Inv s' := hi.step (.of_step hs)

theorem good_reach {cap : Nat} {ab : List Nat} {ls : List Label} {s : Cl}
    (h : run { cap := cap, abortable := ab } ls = some s) : Good cap s :=
  isRun.inv (fun _ _ _ hg hs => hg.step (.of_step hs))
    { inv_init cap ab with capEq := rfl, wq := fun h => (nomatch h), wb := fun _ _ => rfl } h

theorem childrenDone_succ (m : Multi) (k : Nat) : childrenDone m (k + 1) = childDone (childrenDone m k) := by
  induction k generalizing m with
  | zero => rfl
  | succ k ih => rw [childrenDone, ih]; rfl

end SamVerif.Client
