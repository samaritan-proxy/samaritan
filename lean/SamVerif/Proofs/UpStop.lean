import SamVerif.Model.UpStop
import SamVerif.Proofs.Lts
namespace SamVerif.UpStop

theorem isRun : Lts.IsRun step run := ⟨fun _ => rfl, fun s l ls => by rw [run]; cases step s l <;> rfl⟩

def Late (s : SP) : Prop := s = .locked ∨ s = .stopping ∨ s = .returned

/-- Serve takes its snapshot under the lock after quit is closed, and `createClient` publishes nothing once quit is closed:
whatever runs from then on is in the snapshot (`aSnap`, `bSnap`), and Stop returns only when that has been stopped (`ret`).
`fx`: this is the repaired Serve, which holds the lock only while it takes the snapshot (`stopper`). -/
structure Inv (u : U) : Prop where
  fx : u.fixed = true
  stopper : u.mu = .stopper ↔ u.sp = .locked
  quitSet : u.sp ≠ .idle → u.quit = true
  bSnap : Late u.sp → u.bRunning = true → u.snapB = true
  aSnap : Late u.sp → u.aRunning = true → u.snapA = true
  ret : u.sp = .returned → u.aRunning = false ∧ u.bRunning = false

theorem inv_init : Inv { fixed := true } := by constructor <;> simp [Late]

theorem inv_step (u : U) (l : Label) (u' : U) (hi : Inv u) (hs : step u l = some u') : Inv u' := by
  cases hi
  revert hs; fun_cases step u l <;> rintro ⟨⟩ <;> grind [Late, Inv]

def internal : Label → Bool
  | .redirect | .stopQuit => false
  | _ => true

def b2n (b : Bool) : Nat := if b then 1 else 0

/-- What is left to do once Stop has been called (`mu u`; the field `u.mu` is the lock).  `dialing` weighs 2 because
`dialDone` may start B, which adds 1. -/
def mu (u : U) : Nat :=
  (match u.rl with | .checked => 3 | .dialing => 2 | _ => 0) +
  (match u.sp with | .idle => 5 | .quitClosed => 4 | .locked => 3 | .stopping => 2 | .returned => 0) +
  b2n u.aRunning + b2n u.bRunning

def stopCalled (s : SP) : Prop := s ≠ .idle

theorem stopCalled_stays (u : U) (l : Label) (u' : U) (hc : stopCalled u.sp) (hs : step u l = some u') :
    stopCalled u'.sp := by
  unfold stopCalled at *
  revert hs; fun_cases step u l <;> rintro ⟨⟩ <;> first | exact hc | nofun

theorem internal_decreases (u : U) (l : Label) (u' : U) (hl : internal l = true) (hs : step u l = some u') :
    mu u' < mu u := by
  -- one `⟨⟩` is for `hl`: it closes the cases of the labels that are not internal
  revert hs hl; fun_cases step u l <;> rintro ⟨⟩ ⟨⟩ <;>
    simp only [mu, *, Nat.add_lt_add_iff_left, Nat.add_lt_add_iff_right] <;>
    first
    | (simp [b2n, *] <;> grind)
    | (rcases ‹_ ∧ _›.1 with e | ⟨_, e⟩ <;> rw [e] <;> decide)  -- stopReturn: from `stopping`, or from `locked` in the old code

/-- after Stop has been called, the repaired upstream always has a step of its own until Stop has returned -/
theorem progress (u : U) (hi : Inv u) (hc : stopCalled u.sp) (hn : u.sp ≠ .returned) :
    ∃ l, internal l = true ∧ (step u l).isSome = true := by
  have hfree : u.sp ≠ .locked → u.mu = .free := by
    intro hne
    cases hmu : u.mu with
    | free => rfl
    | stopper => exact absurd (hi.stopper.mp hmu) hne
  cases hsp : u.sp with
  | idle => exact absurd hsp hc
  | returned => exact absurd hsp hn
  | quitClosed => exact ⟨.stopLock, rfl, by simp [step.eq_def, hsp, hfree (by simp [hsp])]⟩
  | locked => exact ⟨.stopUnlock, rfl, by simp [step.eq_def, hi.fx, hsp]⟩
  | stopping =>
    have hmu := hfree (by simp [hsp])
    have hq : u.quit = true := hi.quitSet (by simp [hsp])
    by_cases ha : u.snapA = true ∧ u.aRunning = true
    · cases hrl : u.rl with
      | idle | done => exact ⟨.stopA, rfl, by simp [step.eq_def, hsp, ha.1, ha.2, hrl]⟩
      | dialing => exact ⟨.dialDone, rfl, by simp [step.eq_def, hrl, hmu, hq]⟩
      | checked => exact ⟨.rlLock, rfl, by simp [step.eq_def, hrl, hmu, hq]⟩
    · by_cases hb : u.snapB = true ∧ u.bRunning = true
      · exact ⟨.stopB, rfl, by simp [step.eq_def, hsp, hb.1, hb.2]⟩
      · exact ⟨.stopReturn, rfl, by
          simp only [step.eq_def, hsp, true_or, true_and]
          rw [if_pos ⟨fun h => by simpa [h] using ha, fun h => by simpa [h] using hb⟩]; rfl⟩

end SamVerif.UpStop
