/-
C08: every handler of the store and every event concerns one service, and the invariant is stated service by
service, so that each preservation proof is a calculation on one `Option Svc` and one `Option Proc` (`inv_at`).
-/
import SamVerif.Model.Conf
namespace SamVerif.Proofs.Conf
open SamVerif.Conf

def SameSet (a b : List Nat) : Prop := ∀ x, x ∈ a ↔ x ∈ b

theorem removeEps_mem (rem eps : List Nat) (hnd : eps.Nodup) :
    (removeEps eps rem).1.Nodup ∧ ∀ x, (x ∈ (removeEps eps rem).1 ↔ x ∈ eps ∧ x ∉ rem) ∧
      (x ∈ (removeEps eps rem).2 ↔ x ∈ eps ∧ x ∈ rem) := by
  fun_induction removeEps eps rem with
  | case1 => simp [hnd]
  | case2 eps r rs hc e' vr heq ih =>
    rw [heq] at ih
    have hr : r ∈ eps := by simpa using hc
    refine ⟨(ih (hnd.erase r)).1, fun x => ?_⟩
    simp only [List.mem_cons, (ih (hnd.erase r)).2 x, hnd.mem_erase_iff]
    by_cases hx : x = r <;> simp [hx, hr]
  | case3 eps r rs hc ih =>
    have hr : r ∉ eps := by simpa using hc
    refine ⟨(ih hnd).1, fun x => ?_⟩
    simp only [(ih hnd).2 x]
    by_cases hx : x = r <;> simp [hx, hr]

theorem addEps_mem (add eps : List Nat) (hnd : eps.Nodup) :
    (addEps eps add).1.Nodup ∧ ∀ x, (x ∈ (addEps eps add).1 ↔ x ∈ eps ∨ x ∈ add) ∧
      (x ∈ (addEps eps add).2 ↔ x ∉ eps ∧ x ∈ add) := by
  fun_induction addEps eps add with
  | case1 => simp [hnd]
  | case2 eps a as hc ih =>
    have ha : a ∈ eps := by simpa using hc
    refine ⟨(ih hnd).1, fun x => ?_⟩
    simp only [(ih hnd).2 x]
    by_cases hx : x = a <;> simp [hx, ha]
  | case3 eps a as hc e' va heq ih =>
    rw [heq] at ih
    have ha : a ∉ eps := by simpa using hc
    have hnd' : (eps ++ [a]).Nodup :=
      List.nodup_append.mpr ⟨hnd, by simp, fun x hx b hb e => ha (List.mem_singleton.mp hb ▸ e ▸ hx)⟩
    refine ⟨(ih hnd').1, fun x => ?_⟩
    simp only [List.mem_cons, (ih hnd').2 x]
    by_cases hx : x = a <;> simp [hx, ha]

/-! `Good sv p`: what the store knows of a service, against the processor it will have once the pending events
are applied. -/

def Good (sv : Option Svc) (p : Option Proc) : Prop :=
  match sv with
  | none => p = none
  | some sv =>
    match sv.cfg, sv.eps with
    | some c, some e =>
      e.Nodup ∧
      (if c.valid then ∃ pr, p = some pr ∧ pr.cfg = c ∧ SameSet pr.hosts e
       else p = none ∨ ∃ pr, p = some pr ∧ pr.cfg.valid = true ∧ SameSet pr.hosts e)
    | _, some e => e.Nodup ∧ p = none
    | _, none => p = none

def Inv (s : Store) (p : Procs) : Prop := ∀ n, Good (s n) (p n)

theorem inv_init : Inv (fun _ => none) (fun _ => none) := fun _ => rfl

theorem Good.nodup {cfg : Option Cfg} {e : List Nat} {q : Option Proc} (h : Good (some ⟨cfg, some e⟩) q) : e.Nodup := by
  cases cfg <;> exact h.1

theorem Good.eq_none {cfg : Option Cfg} {eps : Option (List Nat)} {q : Option Proc} (h : Good (some ⟨cfg, eps⟩) q)
    (hu : cfg = none ∨ eps = none) : q = none := by
  rcases hu with rfl | rfl
  · cases eps
    · exact h
    · exact h.2
  · cases cfg <;> exact h

/-- `Good` with both known, split on the processor as `applyAt` splits, not on `c.valid` -/
theorem good_known {c : Cfg} {e : List Nat} {q : Option Proc} : Good (some ⟨some c, some e⟩) q ↔
    e.Nodup ∧ ((q = none ∧ c.valid = false) ∨
      ∃ pr, q = some pr ∧ pr.cfg.valid = true ∧ (c.valid = true → pr.cfg = c) ∧ SameSet pr.hosts e) := by
  refine and_congr_right fun _ => ?_
  cases hv : c.valid
  · simp only [Bool.false_eq_true, ↓reduceIte, and_true, false_implies, true_and]
  · simp only [reduceCtorEq, and_false, false_or, true_implies]
    exact exists_congr fun pr => and_congr_right fun _ => ⟨fun ⟨a, b⟩ => ⟨a ▸ hv, a, b⟩, fun ⟨_, a, b⟩ => ⟨a, b⟩⟩

def svc : Event → Nat
  | .add n _ _ | .remove n | .config n _ | .endpoints n _ _ => n

/-- `apply` on the processor of the service the event is about -/
def applyAt (q : Option Proc) : Event → Option Proc
  | .add _ c eps =>
    match q with
    | some _ => q
    | none => if c.valid then some { cfg := c, hosts := eps.eraseDups } else none
  | .remove _ => none
  | .config _ c => q.map fun pr => if c.valid then { pr with cfg := c } else pr
  | .endpoints _ added removed => q.map fun pr =>
    let h1 := pr.hosts.filter (fun a => !removed.contains a)
    { pr with hosts := h1 ++ (added.eraseDups.filter (fun a => !h1.contains a)) }

@[simp] theorem upd_same {β : Type} (f : Nat → β) (k : Nat) (v : β) : upd f k v k = v := if_pos rfl
theorem upd_ne {β : Type} (f : Nat → β) {k m : Nat} (v : β) (h : m ≠ k) : upd f k v m = f m := if_neg h
@[simp] theorem upd_upd {β : Type} (f : Nat → β) (k : Nat) (v w : β) : upd (upd f k v) k w = upd f k w := by
  funext m; unfold upd; split <;> rfl
@[simp] theorem upd_eq {β : Type} (f : Nat → β) (k : Nat) : upd f k (f k) = f := by
  funext m; unfold upd; split <;> simp [*]

theorem eq_upd_self {β : Type} {f : Nat → β} {k : Nat} {v : β} : f = upd f k v ↔ f k = v :=
  ⟨fun h => by rw [h, upd_same], fun h => by rw [← h, upd_eq]⟩

theorem apply_eq (p : Procs) (ev : Event) : apply p ev = upd p (svc ev) (applyAt (p (svc ev)) ev) := by
  -- a branch that leaves `p` as it is: `p = upd p n (p n)` (`eq_upd_self`)
  fun_cases apply p ev <;>
    simp +zetaDelta only [applyAt.eq_def, svc, Option.map, eq_upd_self, *, ↓reduceIte, Bool.false_eq_true]

theorem drain_svc {n : Nat} : ∀ (evs : List Event) (p : Procs), (∀ ev ∈ evs, svc ev = n) →
    drain p evs = upd p n (evs.foldl applyAt (p n))
  | [], p, _ => (upd_eq p n).symm
  | ev :: evs, p, h => by
    have hn := h ev (List.mem_cons_self ..)
    rw [show drain p (ev :: evs) = drain (apply p ev) evs from rfl,
      drain_svc evs _ fun ev' h' => h ev' (List.mem_cons_of_mem _ h'), apply_eq, hn, upd_same, upd_upd]
    rfl

theorem inv_at {s : Store} {p : Procs} {evs : List Event} {sv : Option Svc} (n : Nat) (h : Inv s p)
    (hev : ∀ ev ∈ evs, svc ev = n) (hn : Good sv (evs.foldl applyAt (p n))) : Inv (upd s n sv) (drain p evs) := by
  intro m
  rw [drain_svc evs p hev]
  by_cases hm : m = n
  · rw [hm, upd_same, upd_same]; exact hn
  · rw [upd_ne _ _ hm, upd_ne _ _ hm]; exact h m

theorem inv_depAdd (s : Store) (p : Procs) (n : Nat) (h : Inv s p) :
    Inv (depAdd s n).1 (drain p (depAdd s n).2) := by
  unfold depAdd
  split
  · exact h
  · next hs =>
    refine inv_at n h (List.forall_mem_nil _) ?_
    have := h n; rw [hs] at this
    exact this

theorem inv_depRemove (s : Store) (p : Procs) (n : Nat) (h : Inv s p) :
    Inv (depRemove s n).1 (drain p (depRemove s n).2) := by
  unfold depRemove
  split
  · exact h
  · exact inv_at n h (List.forall_mem_singleton.mpr rfl) rfl

theorem good_add (n : Nat) (c : Cfg) {e : List Nat} (hnd : e.Nodup) :
    Good (some ⟨some c, some e⟩) (applyAt none (.add n c e)) := by
  refine good_known.mpr ⟨hnd, ?_⟩
  cases hv : c.valid
  · exact .inl ⟨by simp [applyAt.eq_def, hv], rfl⟩
  · exact .inr ⟨⟨c, e.eraseDups⟩, by simp [applyAt.eq_def, hv], hv, fun _ => rfl, fun _ => List.mem_eraseDups⟩

theorem inv_cfgUpdate (s : Store) (p : Procs) (n : Nat) (c : Cfg) (h : Inv s p) :
    Inv (cfgUpdate s n c).1 (drain p (cfgUpdate s n c).2) := by
  unfold cfgUpdate
  split
  · exact h
  · next sv hs =>
    have hg := h n; rw [hs] at hg
    obtain ⟨cfg0, eps0⟩ := sv
    cases eps0 with
    | none =>
      refine inv_at n h (List.forall_mem_nil _) ?_
      exact hg.eq_none (.inr rfl)
    | some e =>
      dsimp only
      cases cfg0 with
      | none =>
        refine inv_at n h (List.forall_mem_singleton.mpr rfl) ?_
        rw [hg.2]; exact good_add n c hg.1
      | some old =>
        refine inv_at n h (List.forall_mem_cons.mpr ⟨rfl, List.forall_mem_singleton.mpr rfl⟩) ?_
        obtain ⟨hnd, ⟨hq, _⟩ | ⟨pr, hq, hv, _, hh⟩⟩ := good_known.mp hg <;> rw [hq]
        · exact good_add n c hnd
        · -- the configuration event updates the processor (if valid); the announcement is then ignored
          refine good_known.mpr ⟨hnd, .inr ⟨if c.valid then { pr with cfg := c } else pr, rfl, ?_⟩⟩
          cases hc : c.valid
          · exact ⟨hv, nofun, hh⟩
          · exact ⟨hc, fun _ => rfl, hh⟩

/-- the controller's removals-then-additions on a host list that mirrors `e`, fed with the effective changes
the store computed, mirror the store's new list -/
theorem hosts_endpoints {hosts e e1 e2 va vr added removed : List Nat} (hh : SameSet hosts e)
    (hr : ∀ x, (x ∈ e1 ↔ x ∈ e ∧ x ∉ removed) ∧ (x ∈ vr ↔ x ∈ e ∧ x ∈ removed))
    (ha : ∀ x, (x ∈ e2 ↔ x ∈ e1 ∨ x ∈ added) ∧ (x ∈ va ↔ x ∉ e1 ∧ x ∈ added)) :
    SameSet (hosts.filter (fun a => !vr.contains a) ++
      (va.eraseDups.filter (fun a => !(hosts.filter (fun a => !vr.contains a)).contains a))) e2 := by
  intro x
  simp only [List.mem_append, List.mem_filter, Bool.not_eq_true', List.contains_eq_mem, hh x]
  by_cases x ∈ e <;> by_cases x ∈ removed <;> simp [*]

theorem epsEvents_svc (n : Nat) (cfg : Option Cfg) (old new : Option (List Nat)) (va vr : List Nat) :
    ∀ ev ∈ epsEvents n cfg old new va vr, svc ev = n := by
  fun_cases epsEvents n cfg old new va vr
  case case1 | case3 => exact List.forall_mem_singleton.mpr rfl  -- the two branches that emit an event
  all_goals exact List.forall_mem_nil _

/-- an endpoint event without content would change nothing, so that the store may leave it out -/
theorem applyAt_endpoints_nil (q : Option Proc) (n : Nat) : applyAt q (.endpoints n [] []) = q := by
  cases q with
  | none => rfl
  | some pr => cases pr; simp [applyAt.eq_def]

theorem epsEvents_known (q : Option Proc) (n : Nat) (c : Cfg) (e e' va vr : List Nat) :
    (epsEvents n (some c) (some e) (some e') va vr).foldl applyAt q = applyAt q (.endpoints n va vr) := by
  simp only [epsEvents.eq_def]
  split
  · next he => simp only [Bool.and_eq_true, List.isEmpty_iff] at he; rw [he.1, he.2, applyAt_endpoints_nil]; rfl
  · rfl

theorem inv_epsUpdate (s : Store) (p : Procs) (n : Nat) (added removed : List Nat) (h : Inv s p) :
    Inv (epsUpdate s n added removed).1 (drain p (epsUpdate s n added removed).2) := by
  unfold epsUpdate
  split
  · exact h
  split
  · exact h
  · next sv hs =>
    have hg := h n; rw [hs] at hg
    obtain ⟨cfg0, eps0⟩ := sv
    dsimp only
    refine inv_at n h (epsEvents_svc n _ _ _ _ _) ?_
    have hnd : (eps0.getD []).Nodup := by
      cases eps0
      · exact List.nodup_nil
      · exact hg.nodup
    obtain ⟨hndr, hr⟩ := removeEps_mem removed _ hnd
    obtain ⟨hnda, ha⟩ := addEps_mem added _ hndr
    generalize removeEps (eps0.getD []) removed = r at *
    cases eps0 with
    | none =>
      rw [hg.eq_none (.inr rfl)]
      simp only [newEps]
      split
      · cases cfg0 <;> rfl
      · cases cfg0 with
        | none => exact ⟨hnda, rfl⟩
        | some c => exact good_add n c hnda
    | some e =>
      cases cfg0 with
      | none => exact ⟨hnda, hg.2⟩
      | some c =>
        simp only [newEps, epsEvents_known]
        obtain ⟨_, ⟨hq, hv⟩ | ⟨pr, hq, hv, hc, hh⟩⟩ := good_known.mp hg <;> rw [hq]
        · exact good_known.mpr ⟨hnda, .inl ⟨rfl, hv⟩⟩
        · exact good_known.mpr ⟨hnda, .inr ⟨_, rfl, hv, hc, hosts_endpoints hh hr ha⟩⟩

end SamVerif.Proofs.Conf
