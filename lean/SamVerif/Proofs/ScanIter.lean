/-
C18 helper lemmas: one SCAN request and one rewritten reply on the proxy's own cursors, one step of the iteration, the
walk over one node's path (`Path`) and over the nodes (`AllPaths`).
-/
import SamVerif.Proofs.Scan
namespace SamVerif.Proofs.ScanIter
open SamVerif SamVerif.Gen.Scan SamVerif.Resp SamVerif.Scan SamVerif.Proofs.Resp SamVerif.Proofs.Scan

/-- the proxy's client-visible cursor for (node index, node cursor) -/
def packed (i c : Nat) : Bytes := natDigits (i * 2^48 + c)

theorem toNat_ofNat_lt {w n : Nat} (h : n < 2 ^ w) : (BitVec.ofNat w n).toNat = n := by
  rw [BitVec.toNat_ofNat, Nat.mod_eq_of_lt h]

theorem parseUint64_natDigits (n : Nat) (hlt : n < 2^64) : parseUint64 (natDigits n) = some n := by
  have h1 : (natDigits n).isEmpty = false := by simpa using natDigits_ne_nil n
  simp [parseUint64, h1, natDigits_all_digit, parseDigits_natDigits, hlt]

theorem parseScanCursor_natDigits (n : Nat) (hlt : n < 2^64) :
    parseScanCursor (natDigits n) = some (BitVec.ofNat 64 n) := by
  rw [parseScanCursor, parseUint64_natDigits n hlt]

theorem request_of_parse (n : Nat) (cmd : Bytes) (idx : BitVec 16) (nc v : BitVec 64) (c : Bytes) (more : List Bytes)
    (h1 : parseScanCursor c = some v) (h2 : parseCursor v = (idx, nc)) :
    request n cmd (c :: more) =
      (if n ≤ idx.toNat then .local respScanTerm else .fwd idx.toNat (cmd :: natDigits nc.toNat :: more), idx) := by
  unfold request
  simp only [h1, h2, pastLastNode, decide_eq_true_eq]
  exact (apply_ite (·, idx) ..).symm

/-- every cursor the proxy can hand out — node index up to 65535, node cursor below 2^48 — is read back -/
theorem request_packed (n : Nat) (cmd : Bytes) (i c : Nat) (more : List Bytes) (hi : i ≤ 65535) (hc : c < 2^48) :
    request n cmd (packed i c :: more) =
      (if n ≤ i then .local respScanTerm else .fwd i (cmd :: natDigits c :: more), BitVec.ofNat 16 i) := by
  have hlt : i * 2^48 + c < 2^64 :=
    Nat.lt_of_lt_of_le (Nat.add_lt_add_of_le_of_lt (Nat.mul_le_mul_right _ hi) hc) (by decide)
  have hi' : (BitVec.ofNat 16 i).toNat = i := toNat_ofNat_lt (Nat.lt_succ_of_le hi)
  have hc' : (BitVec.ofNat 64 c).toNat = c := toNat_ofNat_lt (Nat.lt_trans hc (by decide))
  have := request_of_parse n cmd _ _ _ _ more (parseScanCursor_natDigits _ hlt)
    (parseCursor_of_toNat _ (BitVec.ofNat 16 i) (BitVec.ofNat 64 c) (hc'.symm ▸ hc)
      (by rw [toNat_ofNat_lt hlt, hi', hc']))
  rwa [hi', hc'] at this

theorem reply_node (i next : Nat) (keys : List Bytes) (hi : i + 1 ≤ 65535) (hn : next < 2^48) :
    reply (BitVec.ofNat 16 i) (nodeReply next keys) =
      some (.arr (some [.bulk (some (packed (if next = 0 then i + 1 else i) next)),
        .arr (some (keys.map (fun k => .bulk (some k))))])) := by
  have hp : parseInt64 (natDigits next) = some (next : Int) :=
    parseInt64_itoa (next : Int) (Int.le_trans (by decide) (Int.natCast_nonneg next)) (by unfold maxInt64; omega)
  have hu : toU64 (next : Int) = BitVec.ofNat 64 next := BitVec.ofInt_natCast ..
  have hidx : (if ((next : Int) == 0) = true then BitVec.ofNat 16 i + 1 else BitVec.ofNat 16 i) =
      BitVec.ofNat 16 (if next = 0 then i + 1 else i) := by
    simp only [beq_iff_eq, Int.natCast_eq_zero, apply_ite (BitVec.ofNat 16), BitVec.ofNat_add]; rfl
  have hnext : (BitVec.ofNat 64 next).toNat = next := toNat_ofNat_lt (Nat.lt_trans hn (by decide))
  have hg := genCursor_toNat (BitVec.ofNat 16 (if next = 0 then i + 1 else i)) (BitVec.ofNat 64 next)
    (hnext.symm ▸ hn)
  rw [toNat_ofNat_lt (by split <;> omega), hnext] at hg
  -- `unfold`: `simp only [reply]` would first derive `reply`'s equations, by splitting its matches
  unfold reply
  simp only [nodeReply, hp, hu, hidx, hg, packed]

/-- The Redis SCAN guarantee for one node, as a hypothesis: starting at node cursor `c` and
feeding each returned cursor back, cursor 0 is returned by the `k`-th call, the calls
returning `keys` overall; every intermediate cursor is non-zero and below 2^48. -/
inductive Path (scan : Node) : Nat → List Bytes → Nat → Prop
  | last (c : Nat) (ks : List Bytes) : scan c = some (0, ks) → Path scan c ks 1
  | more (c n : Nat) (ks rest : List Bytes) (k : Nat) : scan c = some (n, ks) → n ≠ 0 → n < 2^48 →
      Path scan n rest k → Path scan c (ks ++ rest) (k + 1)

theorem packed_eq_zero_iff (i c : Nat) : packed i c = [48] ↔ i = 0 ∧ c = 0 := by
  rw [packed, natDigits_eq_zero_iff, Nat.add_eq_zero_iff, Nat.mul_eq_zero, or_iff_left (by decide)]

theorem iterate_step (nodes : List Node) (hlen : nodes.length ≤ 65535) (i c : Nat) (hi : i < nodes.length)
    (hc : c < 2^48) (scan : Node) (hs : nodes[i]? = some scan) (n : Nat) (ks : List Bytes)
    (hscan : scan c = some (n, ks)) (hn : n < 2^48) (fuel : Nat) :
    (iterate nodes (fuel + 1) (packed i c)).2 =
      (ks ++ (iterate nodes fuel (packed (if n = 0 then i + 1 else i) n)).2.1,
        (iterate nodes fuel (packed (if n = 0 then i + 1 else i) n)).2.2) := by
  -- the request is rewritten before anything is simplified, and then by `simp only`: plain `simp` tries to reduce
  -- the match on `request … [packed i c]` by evaluating `natDigits (i * 2^48 + c)` and does not return
  have hi' : i < 65535 := Nat.lt_of_lt_of_le hi hlen
  rw [iterate, request_packed _ _ i c [] (Nat.le_of_lt hi') hc, if_neg (Nat.not_le_of_gt hi)]
  have hne : ¬((if n = 0 then i + 1 else i) = 0 ∧ n = 0) := by rintro ⟨h, rfl⟩; exact Nat.succ_ne_zero i h
  simp only [hs, parseDigits_natDigits, hscan, reply_node i n ks hi' hn, beq_iff_eq, packed_eq_zero_iff, hne,
    ↓reduceIte]

/-- `hcont`: what the iteration yields from the next node on, given fuel `F` and more; `e`: fuel to spare -/
theorem iterate_node (nodes : List Node) (hlen : nodes.length ≤ 65535) (i : Nat) (hi : i < nodes.length)
    (scan : Node) (hs : nodes[i]? = some scan) (ks' : List Bytes) (F : Nat)
    (hcont : ∀ e, (iterate nodes (e + F) (packed (i + 1) 0)).2 = (ks', true)) :
    ∀ (c : Nat) (ks : List Bytes) (k : Nat), Path scan c ks k → c < 2^48 →
      ∀ e, (iterate nodes (e + F + k) (packed i c)).2 = (ks ++ ks', true) := by
  intro c ks k hp
  induction hp with
  | last c ks hscan =>
    intro hc e
    rw [iterate_step nodes hlen i c hi hc scan hs 0 ks hscan (Nat.two_pow_pos 48), if_pos rfl, hcont]
  | more c n ks rest k hscan hn0 hn _ ih =>
    intro hc e
    exact (iterate_step nodes hlen i c hi hc scan hs n ks hscan hn (e + F + k)).trans
      (by rw [if_neg hn0, ih hn, List.append_assoc])

theorem iterate_past_last (nodes : List Node) (hlen : nodes.length ≤ 65535) (e : Nat) :
    (iterate nodes (e + 1) (packed nodes.length 0)).2 = ([], true) := by
  rw [iterate, request_packed _ _ _ 0 [] hlen (by decide), if_pos (Nat.le_refl _)]
  rfl

/-- every node of the list satisfies the SCAN guarantee with the given keys / call count -/
inductive AllPaths : List Node → List (List Bytes × Nat) → Prop
  | nil : AllPaths [] []
  | cons {scan : Node} {p : List Bytes × Nat} {ns : List Node} {ps : List (List Bytes × Nat)} :
      Path scan 0 p.1 p.2 → AllPaths ns ps → AllPaths (scan :: ns) (p :: ps)

theorem iterate_suffix (nodes : List Node) (hlen : nodes.length ≤ 65535) {suf : List Node}
    {paths : List (List Bytes × Nat)} (hp : AllPaths suf paths) :
    ∀ pre, nodes = pre ++ suf →
      ∀ e, (iterate nodes (e + ((paths.map (·.2)).sum + 1)) (packed pre.length 0)).2 =
        ((paths.map (·.1)).flatten, true) := by
  induction hp with
  | nil =>
    intro pre hnodes e
    rw [show pre.length = nodes.length by simp [hnodes]]
    exact iterate_past_last nodes hlen e
  | @cons scan p _ paths' hpath _ ih =>
    intro pre hnodes e
    have hcont := ih (pre ++ [scan]) (hnodes.trans (List.append_cons ..))
    rw [List.length_append] at hcont
    have := iterate_node nodes hlen pre.length (by simp [hnodes]) scan (by simp [hnodes]) _ _ hcont 0 p.1 p.2 hpath
      (Nat.two_pow_pos 48) e
    rw [List.map_cons, List.sum_cons, Nat.add_assoc, Nat.add_comm p.2, ← Nat.add_assoc]
    simpa using this

end SamVerif.Proofs.ScanIter
