/-
C19 — hot keys: counters are exact for tracked keys and bounded in size; the report is
bounded, duplicate-free and ordered.

`Hotkey.incr/latch` model counter.go at the level of the frequency list (ascending
frequency nodes, FIFO keys per node); `Hotkey.insert/evictStale` model the collector's
bounded descending slice. Tied to the Go code by the differential run (state compared
after every operation, every link of the real pointer structure checked).
-/
import SamVerif.Proofs.Hotkey
import SamVerif.Gen.Hotkey
import SamVerif.Gen.Filters
import SamVerif.Model.HotShare
import SamVerif.Proofs.Lts
namespace SamVerif.Props.C19
open SamVerif.Hotkey SamVerif.Proofs.Hotkey

/-- the counter invariant: no key twice, at most `cap` keys, well-shaped frequency list -/
def Inv (c : Counter) : Prop :=
  (∀ j, (keysOf c.nodes).count j ≤ 1) ∧ size c.nodes ≤ c.cap ∧ Shape c.nodes

theorem inv_iff (c : Counter) :
    Inv c ↔ (keysOf c.nodes).Nodup ∧ (keysOf c.nodes).length ≤ c.cap ∧ Shape c.nodes :=
  and_congr List.nodup_iff_count.symm Iff.rfl

/-- the invariant looks at the nodes only through their shape and their keys as a multiset -/
theorem inv_of_keys {c : Counter} {ns : Nodes} {ks : List Nat} (hp : (keysOf ns).Perm ks) (hn : ks.Nodup)
    (hl : ks.length ≤ c.cap) (hs : Shape ns) : Inv { c with nodes := ns } :=
  (inv_iff _).mpr ⟨hp.nodup_iff.mpr hn, hp.length_eq ▸ hl, hs⟩

/-- **One access** on a counter of positive capacity never fails and keeps the invariant. -/
theorem incr_inv (c : Counter) (k : Nat) (hc : 0 < c.cap) (h : Inv c) :
    ∃ c', incr c k = some c' ∧ Inv c' ∧ c'.cap = c.cap := by
  obtain ⟨hnd, hsz, hsh⟩ := (inv_iff c).mp h
  fun_cases incr c k
  · next hk =>
    exact ⟨_, rfl, inv_of_keys (keysOf_promote k _ hnd (List.contains_iff_mem.mp hk)) hnd hsz (shape_promote k hsh), rfl⟩
  · next hfull he =>
    -- full, and the capacity is positive: there is a key to evict
    have hne : c.nodes ≠ [] := fun e => by simp [e, size] at hfull; omega
    obtain ⟨_, he'⟩ := evict_some_of_shape hsh hne
    cases he.symm.trans he'
  · next hk _ ns' he =>
    obtain ⟨v, hv⟩ := keysOf_evict he
    rw [hv] at hnd hsz
    have hk' : k ∉ keysOf ns' := fun h => hk (List.contains_iff_mem.mpr (hv ▸ List.mem_cons_of_mem v h))
    exact ⟨_, rfl, inv_of_keys (keysOf_admitKey k ns') (List.nodup_cons.mpr ⟨hk', (List.nodup_cons.mp hnd).2⟩) hsz
      (shape_admitKey k (shape_evict hsh he)), rfl⟩
  · next hk hfull =>
    have hk' : k ∉ keysOf c.nodes := fun h => hk (List.contains_iff_mem.mpr h)
    exact ⟨_, rfl, inv_of_keys (keysOf_admitKey k _) (List.nodup_cons.mpr ⟨hk', hnd⟩) (Nat.lt_of_not_le hfull)
      (shape_admitKey k hsh), rfl⟩

inductive Op where
  | incr (k : Nat)
  | latch
  | free

def step (c : Counter) : Op → Option Counter
  | .incr k => incr c k
  | .latch => some (latch c).2
  | .free => some { c with nodes := [] }

def run (c : Counter) : List Op → Option Counter
  | [] => some c
  | o :: os => match step c o with
    | none => none
    | some c' => run c' os

theorem isRun : Lts.IsRun step run := ⟨fun _ => rfl, fun c o os => by rw [run]; cases step c o <;> rfl⟩

theorem inv_init (cap : Nat) : Inv { cap := cap, nodes := [] } :=
  (inv_iff _).mpr ⟨.nil, Nat.zero_le _, above_nil 0⟩

theorem inv_step (c : Counter) (o : Op) (hc : 0 < c.cap) (h : Inv c) :
    ∃ c', step c o = some c' ∧ Inv c' ∧ c'.cap = c.cap := by
  cases o with
  | incr k => exact incr_inv c k hc h
  | latch | free => exact ⟨_, rfl, inv_init _, rfl⟩

/-- **Bounded and duplicate-free for every history**: from the empty counter of any positive
capacity, every sequence of accesses, latches and frees runs without failure and ends in a
state that tracks at most `cap` keys, no key twice, frequencies strictly ascending. -/
theorem run_inv (cap : Nat) (hc : 0 < cap) (ops : List Op) :
    ∃ c', run { cap := cap, nodes := [] } ops = some c' ∧ Inv c' ∧ c'.cap = cap :=
  isRun.total (P := fun c => Inv c ∧ c.cap = cap)
    (fun c o ⟨hi, hcap⟩ => (inv_step c o (hcap ▸ hc) hi).imp fun _ h => ⟨h.1, h.2.1, h.2.2.trans hcap⟩)
    ops ⟨inv_init cap, rfl⟩

example : run { cap := 2, nodes := [] } [.incr 1, .incr 2, .incr 2, .incr 3, .incr 3, .incr 3, .latch, .incr 4]
    = some { cap := 2, nodes := [(1, [4])] } := rfl
example : (run { cap := 2, nodes := [] } [.incr 1, .incr 2, .incr 2, .incr 3]).map (·.nodes) = some [(1, [3]), (2, [2])] := rfl

/-- **Exact counts**: an access to a tracked key adds exactly one to its count … -/
theorem incr_tracked_count (c c' : Counter) (k f : Nat) (h : lookup c.nodes k = some f)
    (hi : incr c k = some c') : lookup c'.nodes k = some (f + 1) := by
  have hk : (keysOf c.nodes).contains k = true := by rw [← lookup_isSome, h]; rfl
  simp only [incr, hk, ↓reduceIte, Option.some.injEq] at hi
  subst hi
  simp [lookup_promote, h]

/-- … and leaves the count of every other key untouched. -/
theorem incr_tracked_others (c c' : Counter) (k j : Nat) (hj : j ≠ k)
    (hk : (keysOf c.nodes).contains k = true) (hi : incr c k = some c') :
    lookup c'.nodes j = lookup c.nodes j := by
  simp only [incr, hk, ↓reduceIte, Option.some.injEq] at hi
  subst hi
  simp [lookup_promote, hj]

/-- **Eviction takes a key with the lowest count**: the victim is the oldest key of the first
node, and under the invariant no node has a smaller frequency. -/
theorem evict_min (ns ns' : Nodes) (hs : Shape ns) (he : evict ns = some ns') :
    ∃ f v vs rest, ns = (f, v :: vs) :: rest ∧ ∀ n ∈ ns, f ≤ n.1 := by
  obtain ⟨f, v, vs, rest, rfl, -⟩ := evict_eq_some he
  refine ⟨f, v, vs, rest, rfl, List.forall_mem_cons.mpr ⟨Nat.le_refl f, fun n hn => ?_⟩⟩
  exact Nat.le_of_lt (((above_cons.mp hs).2.2).1 n hn).2

def Desc (l : List Hot) : Prop := l.Pairwise (fun a b => a.val ≥ b.val)
def names (l : List Hot) : List Nat := l.map (·.name)

theorem insertDesc_perm (h : Hot) (l : List Hot) : (insertDesc h l).Perm (h :: l) := by
  induction l with
  | nil => simp [insertDesc]
  | cons x xs ih =>
    simp only [insertDesc]
    split
    · exact (ih.cons x).trans (.swap h x xs)
    · exact .refl _

theorem insertDesc_desc (h : Hot) (l : List Hot) (hl : Desc l) : Desc (insertDesc h l) := by
  induction l with
  | nil => exact List.pairwise_singleton _ _
  | cons y ys ih =>
    obtain ⟨hy, hys⟩ := List.pairwise_cons.mp hl
    simp only [insertDesc]
    split
    · refine List.pairwise_cons.mpr ⟨fun x hx => ?_, ih hys⟩
      rcases List.mem_cons.mp ((insertDesc_perm h ys).mem_iff.mp hx) with rfl | hx
      · exact Nat.le_of_lt ‹_›
      · exact hy x hx
    · refine List.pairwise_cons.mpr ⟨fun x hx => ?_, hl⟩
      rcases List.mem_cons.mp hx with rfl | hx
      · exact Nat.le_of_not_lt ‹_›
      · exact Nat.le_trans (hy x hx) (Nat.le_of_not_lt ‹_›)

theorem sortDesc_perm (l : List Hot) : (sortDesc l).Perm l := by
  induction l with
  | nil => exact .refl _
  | cons x xs ih => exact (insertDesc_perm x _).trans (ih.cons x)

theorem sortDesc_desc (l : List Hot) : Desc (sortDesc l) := by
  induction l with
  | nil => exact .nil
  | cons x xs ih => exact insertDesc_desc x _ ih

theorem searchPos_cons (x : Hot) (xs : List Hot) (v : Nat) :
    searchPos (x :: xs) v = if x.val > v then searchPos xs v + 1 else 0 := by
  by_cases h : x.val > v <;> simp [searchPos, h]

theorem searchPos_le (l : List Hot) (v : Nat) : searchPos l v ≤ l.length :=
  (List.takeWhile_sublist _).length_le

theorem insertDesc_eq (h : Hot) (l : List Hot) :
    insertDesc h l = l.take (searchPos l h.val) ++ h :: l.drop (searchPos l h.val) := by
  induction l with
  | nil => rfl
  | cons x xs ih =>
    simp only [insertDesc, searchPos_cons]
    split <;> simp [ih]

theorem insert_eq (cap : Nat) (data : List Hot) (key : Hot) :
    Hotkey.insert cap data key = (insertDesc key data).take (max data.length cap) := by
  -- every entry is hotter than the key: its place is the end
  have hend : ¬ searchPos data key.val < data.length → insertDesc key data = data ++ [key] := fun h => by
    rw [insertDesc_eq, List.take_of_length_le (Nat.le_of_not_lt h), List.drop_of_length_le (Nat.le_of_not_lt h)]
  unfold Hotkey.insert
  simp only [← insertDesc_eq]
  by_cases hcap : data.length < cap
  · have hfit : (insertDesc key data).length ≤ max data.length cap :=
      (insertDesc_perm key data).length_eq ▸ Nat.le_trans hcap (Nat.le_max_right ..)
    rw [List.take_of_length_le hfit, if_pos hcap, if_pos hcap]
    split
    · rfl
    · rename_i h; exact (hend h).symm
  · rw [Nat.max_eq_left (Nat.le_of_not_lt hcap), if_neg hcap, if_neg hcap]
    split
    · rfl
    · rename_i h; rw [hend h, List.take_left']; rfl

theorem insertDesc_take (k : Hot) (n : Nat) (l : List Hot) :
    (insertDesc k (l.take n)).take n = (insertDesc k l).take n := by
  induction l generalizing n with
  | nil => rw [List.take_nil]
  | cons x xs ih =>
    cases n with
    | zero => rfl
    | succ n =>
      simp only [List.take_succ_cons, insertDesc]
      split
      · simp [ih]
      · have : (x :: xs.take n).take n = (x :: xs).take n := by
          rw [← List.take_succ_cons, List.take_take, Nat.min_eq_left (Nat.le_succ n)]
        simp [this]

/-- **A collection reports the `cap` hottest entries** in the order of a stable descending sort,
later entries first among equals. -/
theorem collect_eq (cap : Nat) (ins : List Hot) :
    ins.foldl (Hotkey.insert cap) [] = (sortDesc ins.reverse).take cap := by
  suffices H : ∀ ins done : List Hot, ins.foldl (Hotkey.insert cap) ((sortDesc done).take cap)
      = (sortDesc (ins.reverse ++ done)).take cap by simpa [sortDesc] using H ins []
  intro ins
  induction ins with
  | nil => intro done; rfl
  | cons k ks ih =>
    intro done
    have := ih (k :: done)
    simp only [sortDesc, List.foldl_cons, List.reverse_cons, List.append_assoc, List.singleton_append] at this ⊢
    rw [← this, insert_eq, Nat.max_eq_right (List.length_take_le ..), insertDesc_take]

theorem insert_sublist (cap : Nat) (data : List Hot) (key : Hot) :
    (Hotkey.insert cap data key).Sublist (insertDesc key data) :=
  insert_eq cap data key ▸ List.take_sublist ..

/-- **The bounded insert keeps the report ordered by non-increasing heat.** -/
theorem insert_desc (cap : Nat) (data : List Hot) (key : Hot) (hd : Desc data) : Desc (Hotkey.insert cap data key) :=
  (insertDesc_desc key data hd).sublist (insert_sublist cap data key)

/-- the bounded insert only ever lists the key or what was listed -/
theorem insert_mem (cap : Nat) (data : List Hot) (key x : Hot) (hx : x ∈ Hotkey.insert cap data key) : x = key ∨ x ∈ data :=
  List.mem_cons.mp ((insertDesc_perm key data).mem_iff.mp ((insert_sublist cap data key).subset hx))

/-- the bounded insert never lists a name twice when the key's name is new -/
theorem insert_names_nodup (cap : Nat) (data : List Hot) (key : Hot) (hn : (names data).Nodup)
    (hnew : key.name ∉ names data) : (names (Hotkey.insert cap data key)).Nodup :=
  ((insert_sublist cap data key).map _).nodup
    (((insertDesc_perm key data).map _).nodup_iff.mpr (List.nodup_cons.mpr ⟨hnew, hn⟩))

theorem insert_length_le (cap : Nat) (data : List Hot) (key : Hot) (h : data.length ≤ cap) :
    (Hotkey.insert cap data key).length ≤ cap := by
  rw [insert_eq, Nat.max_eq_right h]
  exact List.length_take_le ..

/-- **For every assignment of heat values** (whatever the probabilistic increments did): a
collection inserts the keys one by one into a fresh bounded slice, so the report never
lists more keys than the capacity. -/
theorem collect_length_le (cap : Nat) (keys : List Hot) :
    (keys.foldl (Hotkey.insert cap) []).length ≤ cap :=
  collect_eq cap keys ▸ List.length_take_le ..

/-- **After a stale-eviction pass the report is ordered by non-increasing heat**, whatever
the last-update minutes of its entries were (repaired behaviour). -/
theorem evictStale_desc (now : Int) (data : List Hot) : Desc (evictStale now data) :=
  sortDesc_desc _

theorem names_halveStale (now : Int) (data : List Hot) : names (halveStale now data) = names data :=
  List.map_map.trans (List.map_congr_left fun h _ => by simp only [Function.comp]; split <;> rfl)

theorem evictStale_names_sub (now : Int) (data : List Hot) :
    ∃ l, (names (evictStale now data)).Perm l ∧ l.Sublist (names data) :=
  ⟨_, (sortDesc_perm _).map _, names_halveStale now data ▸ List.filter_sublist.map _⟩

/-- stale eviction lists only names that were listed, none twice -/
theorem evictStale_names (now : Int) (data : List Hot) (hn : (names data).Nodup) :
    (names (evictStale now data)).Nodup ∧ ∀ n ∈ names (evictStale now data), n ∈ names data := by
  obtain ⟨l, hp, hs⟩ := evictStale_names_sub now data
  exact ⟨hp.nodup_iff.mpr (hs.nodup hn), fun n h => hs.subset (hp.subset h)⟩

theorem evictStale_length (now : Int) (data : List Hot) : (evictStale now data).length ≤ data.length := by
  rw [evictStale, (sortDesc_perm _).length_eq]
  exact Nat.le_trans (List.length_filter_le ..) (Nat.le_of_eq (List.length_map ..))

/-- F-19a, the behaviour before the repair (commit 654e167): halving only the stale entry
breaks the order — hot (20, stale) and warm (19, fresh) become hot=10, warm=19. -/
theorem evictStaleOld_counterexample :
    evictStaleOld 101 [⟨0, 20, 100⟩, ⟨1, 19, 101⟩] = [⟨0, 10, 101⟩, ⟨1, 19, 101⟩] ∧
    ¬ Desc (evictStaleOld 101 [⟨0, 20, 100⟩, ⟨1, 19, 101⟩]) := by
  constructor
  · decide
  · unfold Desc; decide

/-- reports reachable over any number of periods: a collection inserts, in any order, entries with
pairwise different names (they come out of Go maps), each either a listed name or a name accessed in the period (`acc`: every
name ever accessed); a stale eviction at any minute -/
inductive Report (cap : Nat) (acc : List Nat) : List Hot → Prop
  | init : Report cap acc []
  | collect {keys : List Hot} (ins : List Hot) (hn : (names ins).Nodup)
      (hacc : ∀ h ∈ ins, h.name ∈ names keys ∨ h.name ∈ acc) :
      Report cap acc keys → Report cap acc (ins.foldl (Hotkey.insert cap) [])
  | evict {keys : List Hot} (now : Int) : Report cap acc keys → Report cap acc (evictStale now keys)

/-- **The HOTKEY report is well formed after every history of collections and evictions**: never
more keys than the capacity, no key twice, ordered by non-increasing heat, only keys that were
accessed — whatever values the probabilistic counters took and in whatever order the maps were
iterated. -/
theorem report_well_formed (cap : Nat) (acc : List Nat) (keys : List Hot) (h : Report cap acc keys) :
    keys.length ≤ cap ∧ (names keys).Nodup ∧ Desc keys ∧ ∀ n ∈ names keys, n ∈ acc := by
  induction h with
  | init => simp [names, Desc]
  | collect ins hn hacc _ ih =>
    obtain ⟨-, -, -, hin⟩ := ih
    -- the report is a prefix of the sorted entries, which are the inserted ones in another order
    rw [collect_eq]
    have hsub := List.take_sublist cap (sortDesc ins.reverse)
    have hperm := (sortDesc_perm ins.reverse).trans ins.reverse_perm
    refine ⟨List.length_take_le .., (hsub.map _).nodup ((hperm.map _).nodup_iff.mpr hn),
      (sortDesc_desc _).sublist hsub, fun n hn' => ?_⟩
    obtain ⟨x, hx, rfl⟩ := List.mem_map.mp hn'
    exact (hacc x (hperm.subset (hsub.subset hx))).elim (hin _) id
  | evict now _ ih =>
    obtain ⟨hlen, hnd, -, hin⟩ := ih
    obtain ⟨hnd', hsub⟩ := evictStale_names now _ hnd
    exact ⟨Nat.le_trans (evictStale_length now _) hlen, hnd', evictStale_desc now _, fun n hn' => hin n (hsub n hn')⟩

/-- capacity 2, three periods -/
example : Report 2 [1, 2, 3] [⟨3, 9, 5⟩, ⟨1, 2, 6⟩] := by
  have h1 : Report 2 [1, 2, 3] ([⟨1, 5, 5⟩, ⟨2, 7, 5⟩].foldl (Hotkey.insert 2) []) :=
    Report.collect _ (by decide) (by decide) Report.init
  have h2 := Report.collect (cap := 2) (acc := [1, 2, 3]) [⟨2, 7, 5⟩, ⟨3, 9, 5⟩, ⟨1, 5, 5⟩] (by decide) (by decide) h1
  have h3 := Report.evict (cap := 2) (acc := [1, 2, 3]) 6 h2
  have h4 := Report.collect (cap := 2) (acc := [1, 2, 3]) [⟨1, 2, 6⟩, ⟨3, 9, 5⟩] (by decide) (by decide) h3
  exact h4

/-- **The code the model was written against.** The statements of the modelled functions,
regenerated from the current source on every run, are the ones the model was written against;
any edit to one of them makes this obligation fail and starts a search for a failing input. -/
theorem filters_match_model :
    Gen.Filters.hotKeyDo =
      ["key := f.extractKey(cmd, req.Body())",
      "if len(key) > 0 && f.counter != nil { f.counter.Incr(key) }",
      "return Continue"] ∧
    Gen.Filters.hotKeyExtractKey =
      ["if len(v.Array) <= 1 { return \"\" }",
      "switch cmd { case \"eval\", \"cluster\", \"auth\", \"scan\": return \"\" default: return string(v.Array[1].Text) }"] := by
  refine ⟨rfl, rfl⟩

/-- **The code the model was written against.** The statements of the modelled functions,
regenerated from the current source on every run, are the ones the model was written against;
any edit to one of them makes this obligation fail and starts a search for a failing input. -/
theorem code_matches_model :
    Gen.Hotkey.incr =
      ["c.mu.Lock()",
      "item, ok := c.items[key]",
      "if ok { c.increment(item) c.mu.Unlock() return }",
      "if uint8(len(c.items)) >= c.capacity { c.evict() }",
      "item = &itemNode{key: key}",
      "c.add(item)",
      "c.mu.Unlock()"] ∧
    Gen.Hotkey.latch =
      ["c.mu.Lock()",
      "res := make(map[string]uint64, len(c.items))",
      "for key, item := range c.items { res[key] = item.freqNode.freq }",
      "c.reset()",
      "c.mu.Unlock()",
      "return res"] ∧
    Gen.Hotkey.reset =
      ["c.items = make(map[string]*itemNode)",
      "c.freqHead = nil"] ∧
    Gen.Hotkey.increment =
      ["curFreqNode := item.freqNode",
      "curFreq := curFreqNode.freq",
      "var targetFreqNode *freqNode",
      "if curFreqNode.next == nil || curFreqNode.next.freq != curFreq+1 { targetFreqNode = &freqNode{freq: curFreq + 1} curFreqNode.InsertAfterMe(targetFreqNode) } else { targetFreqNode = curFreqNode.next }",
      "item.Free()",
      "targetFreqNode.AppendItem(item)",
      "if curFreqNode.itemHead != nil { return }",
      "if c.freqHead == curFreqNode { c.freqHead = targetFreqNode }",
      "curFreqNode.Free()"] ∧
    Gen.Hotkey.add =
      ["c.items[item.key] = item",
      "if c.freqHead != nil && c.freqHead.freq == 1 { c.freqHead.AppendItem(item) return }",
      "fnode := &freqNode{freq: 1}",
      "fnode.AppendItem(item)",
      "if c.freqHead != nil { c.freqHead.InsertBeforeMe(fnode) }",
      "c.freqHead = fnode"] ∧
    Gen.Hotkey.evict =
      ["fnode := c.freqHead",
      "item := fnode.itemHead",
      "delete(c.items, item.key)",
      "fnode.PopItem()",
      "if fnode.itemHead != nil { return }",
      "c.freqHead = fnode.next",
      "fnode.Free()"] ∧
    Gen.Hotkey.popItem =
      ["if n.itemHead == nil { return nil }",
      "if n.itemHead == n.itemTail { item := n.itemHead n.itemHead = nil n.itemTail = nil return item }",
      "item := n.itemHead",
      "item.next.prev = nil",
      "n.itemHead = item.next",
      "return item"] ∧
    Gen.Hotkey.appendItem =
      ["item.freqNode = n",
      "if n.itemHead == nil { n.itemHead = item n.itemTail = item return }",
      "item.prev = n.itemTail",
      "item.next = nil",
      "n.itemTail.next = item",
      "n.itemTail = item"] ∧
    Gen.Hotkey.insert =
      ["l := len(s.data)",
      "i := sort.Search(l, func(i int) bool { return s.data[i].Counter.Value() <= key.Counter.Value() })",
      "if uint8(l) < s.capacity { s.data = append(s.data, key) success = true }",
      "if i < l { copy(s.data[i+1:], s.data[i:]) s.data[i] = key success = true }",
      "return"] ∧
    Gen.Hotkey.collect =
      ["c.rwmu.RLock()",
      "accessedKeyNames := make(map[string]uint64)",
      "for _, counter := range c.counters { for key, hitCount := range counter.Latch() { accessedKeyNames[key] += hitCount } }",
      "c.rwmu.RUnlock()",
      "if len(accessedKeyNames) == 0 { return }",
      "c.rwmu.RLock()",
      "curHotKeys := make(map[string]*logrithmCounter, len(c.keys))",
      "for _, key := range c.keys { curHotKeys[key.Name] = key.Counter }",
      "c.rwmu.RUnlock()",
      "res := newSortedHotKeys(c.capacity)",
      "for keyName, cur := range curHotKeys { visits := accessedKeyNames[keyName] counter := new(logrithmCounter) *counter = *cur counter.ReaptIncr(visits) key := HotKey{Name: keyName, Counter: counter} res.Insert(key) delete(accessedKeyNames, keyName) }",
      "for keyName, hitCount := range accessedKeyNames { counter := new(logrithmCounter) counter.ReaptIncr(hitCount) key := HotKey{Name: keyName, Counter: counter} res.Insert(key) }",
      "c.rwmu.Lock()",
      "c.keys = res.Data()",
      "c.rwmu.Unlock()"] ∧
    Gen.Hotkey.evictStale =
      ["c.rwmu.Lock()",
      "defer c.rwmu.Unlock()",
      "curTimeInMinute := nowInMinute()",
      "halved := make([]HotKey, 0, len(c.keys))",
      "for _, key := range c.keys { counter := new(logrithmCounter) *counter = *key.Counter if curTimeInMinute > counter.LastUpdateTimeInMinute() { counter.Halve() } halved = append(halved, HotKey{Name: key.Name, Counter: counter}) }",
      "keys := make([]HotKey, 0, len(halved))",
      "for _, key := range halved { if key.Counter.Value() != 0 { keys = append(keys, key) } }",
      "sort.SliceStable(keys, func(i, j int) bool { return keys[i].Counter.Value() > keys[j].Counter.Value() })",
      "c.keys = keys"] ∧
    Gen.Hotkey.hotKeys =
      ["c.rwmu.RLock()",
      "defer c.rwmu.RUnlock()",
      "return c.keys"] ∧
    Gen.Hotkey.allocCounter =
      ["c.rwmu.Lock()",
      "defer c.rwmu.Unlock()",
      "counter, ok := c.counters[name]",
      "if ok { atomic.AddInt32(&counter.refs, 1) return counter }",
      "cb := func() { c.rwmu.Lock() if atomic.AddInt32(&counter.refs, -1) <= 0 && c.counters[name] == counter { delete(c.counters, name) } c.rwmu.Unlock() }",
      "counter = NewCounter(c.capacity, cb)",
      "counter.refs = 1",
      "c.counters[name] = counter",
      "return counter"] ∧
    Gen.Hotkey.free =
      ["if c.freeCb != nil { c.freeCb() }",
      "if atomic.LoadInt32(&c.refs) > 0 { return }",
      "c.mu.Lock()",
      "c.reset()",
      "c.mu.Unlock()"] ∧
    Gen.Hotkey.halve =
      ["if c.val == 0 { return }",
      "c.val = c.val >> 1",
      "c.lut = nowInMinute()"] := by
  refine ⟨rfl, rfl, rfl, rfl, rfl, rfl, rfl, rfl, rfl, rfl, rfl, rfl, rfl, rfl, rfl⟩

end SamVerif.Props.C19

namespace SamVerif.Props.C19s
open SamVerif.Hotkey SamVerif.HotShare

/-- with the repair in place (`old = false`) the other connections move only the reference count, which no step of the
live connection reads: its own history, from any reference count, ends with the same counter -/
theorem run_own (r : Nat) (ops : List Op) : ∀ (c : Counter) (n : Nat) (s' : Shared),
    run { c := c, refs := n } ops = some s' → run { c := c, refs := r } (own ops) = some { s' with refs := r } := by
  induction ops with
  | nil => rintro c n s' ⟨⟩; rfl
  | cons o os ih =>
    intro c n s' h
    rw [run] at h
    split at h
    · next s1 hs =>
      cases o with
      | incr k =>
        obtain ⟨c', hc', rfl⟩ := Option.map_eq_some_iff.mp hs
        simpa [own, run, step.eq_def, hc'] using ih _ _ s' h
      | latch => cases hs; exact ih _ _ s' h
      | allocOther => cases hs; exact ih _ _ s' h
      | freeOther =>
        simp only [step.eq_def, Bool.false_eq_true, ↓reduceIte] at hs
        split at hs <;> cases hs
        exact ih _ _ s' h
    · cases h

/-- **The live connection's counter is not touched by the other connections to its backend** (F-19c, since 61d3b92): after any
history of its own accesses and of other connections being made and stopped, the counter holds what its own accesses alone
produce — so the exactness and capacity theorems above speak about it. -/
theorem live_counter_is_its_own (c : Counter) (ops : List Op) (s' : Shared) (h : run { c := c } ops = some s') :
    ∃ t', run { c := c } (own ops) = some t' ∧ t'.c = s'.c :=
  ⟨_, run_own 1 ops c 1 s' h, rfl⟩

/-- **Before 61d3b92**: a successor is made, the old connection is stopped — the successor's counter is empty again -/
theorem old_free_resets_the_successors_counter :
    ∃ s, run { old := true, c := { cap := 3, nodes := [] } } [.incr 1, .incr 1, .allocOther, .freeOther] = some s ∧ s.c.nodes = [] := by
  refine ⟨_, rfl, rfl⟩

example : ∃ s, run { c := { cap := 3, nodes := [] } } [.incr 1, .incr 1, .allocOther, .freeOther] = some s ∧ s.c.nodes ≠ [] := by
  refine ⟨_, rfl, by decide⟩

end SamVerif.Props.C19s

#print axioms SamVerif.Props.C19.incr_inv
#print axioms SamVerif.Props.C19.run_inv
#print axioms SamVerif.Props.C19.incr_tracked_count
#print axioms SamVerif.Props.C19.incr_tracked_others
#print axioms SamVerif.Props.C19.evict_min
#print axioms SamVerif.Props.C19.collect_length_le
#print axioms SamVerif.Props.C19.evictStale_desc
#print axioms SamVerif.Props.C19.evictStaleOld_counterexample
#print axioms SamVerif.Props.C19.code_matches_model
#print axioms SamVerif.Props.C19.insert_desc
#print axioms SamVerif.Props.C19.insert_mem
#print axioms SamVerif.Props.C19.insert_names_nodup
#print axioms SamVerif.Props.C19.evictStale_names
#print axioms SamVerif.Props.C19.report_well_formed
#print axioms SamVerif.Props.C19.filters_match_model
#print axioms SamVerif.Props.C19s.live_counter_is_its_own
#print axioms SamVerif.Props.C19s.old_free_resets_the_successors_counter
