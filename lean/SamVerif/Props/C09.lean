/-
C09 — stop and drain always complete and release what they hold.

`Listener.step` is the life cycle of proc/listener.go as repaired:
  (F-09a c3fc390) Serve closes done on every return path, Stop only waits for a Serve that started
  (F-09b da662b2) the bound listener is published under the lock and quit/drain are re-checked
and the protocol handlers return once their connection is closed whatever the backends do:
  (F-09c c5dbe92) the session writer watches quit while waiting for a request's completion
  (F-09d baff886) the slot refresh watches quit while waiting for CLUSTER NODES
  (F-09e e64b695, F-09f a7cb271) stopping a TCP service closes both sides of every relay, half-closed ones included
The statements of all the functions involved are regenerated from the source on every run and
compared (`code_matches_model`); behaviour is tied by running real TCP and Redis processors
through scripted life cycles, with Stop/StopListen placed at pause points before the bind,
during bind retries, between bind and publication, and with connections open towards
responsive, silent and closed backends.
The other stop paths have models and namespaces of their own below: `C09u` (`UpStop`: the upstream's Stop against a
redirecting read loop, F-09h), `C09s` (`ProcStop`: the order of the stops in a Redis service, F-09i), `C09r` (`RedirStop`: a
read loop resending into a full queue, F-09j, F-09l), `C09t` (`TableReplace`: connections that outlive their table entry, F-09k).
-/
import SamVerif.Proofs.Listener
import SamVerif.Gen.Listener
import SamVerif.Proofs.UpStop
import SamVerif.Proofs.ProcStop
import SamVerif.Gen.Session
import SamVerif.Proofs.RedirStop
import SamVerif.Proofs.TableReplace
import SamVerif.Gen.Upstream
namespace SamVerif.Props.C09
open SamVerif.Listener

def init (limit : Nat) : L := { limit := limit }

theorem inv_reach {limit : Nat} {ls : List Label} {s : L} (h : run (init limit) ls = some s) : Inv s :=
  isRun.inv inv_step (inv_init limit) h

/-- **What Stop leaves behind.** In every reachable state in which Stop has returned — wherever
in the listener's life it was called: before Serve ran, before or during the bind, between the
bind and the publication of the listener, with connections open — the port is not held, the
registry is gone and no handler goroutine is left; Serve has returned or will return without
ever binding. -/
theorem stop_releases (limit : Nat) (ls : List Label) (s : L) (h : run (init limit) ls = some s)
    (hr : s.stopPc = .returned) :
    s.lnOpen = false ∧ s.reg = none ∧ s.handlers = [] ∧
    (s.serve = .returned ∨ s.serve = .notCalled ∨ s.serve = .entered) ∧ step s .checkOk = none := by
  have hi := inv_reach h
  have hq : s.quit = true := hi.quitSet (by simp [hr])
  have hserve : s.serve = .returned ∨ s.serve = .notCalled ∨ s.serve = .entered := by
    rcases hi.stopRet hr with hs | hd
    · rcases hi.sawNotStarted (by simp [hr]) hs with h | h | h <;> simp [h]
    · exact Or.inl (hi.doneIff.mp hd)
  refine ⟨?_, hi.regGone.mpr (by simp [hr]), hi.noHandlers (by rcases hserve with h | h | h <;> simp [h]), hserve,
    by simp [step.eq_def, hq]⟩
  cases ho : s.lnOpen with
  | false => rfl
  | true => rcases hi.openWhen ho with hb | hb <;> simp [hb] at hserve

/-- steps of the listener's own goroutines and of the Stop call in progress (everything but the
environment: clients closing, Stop/Drain being called, the processor being started) -/
def internal : Label → Bool
  | .clientClose _ | .stopQuit | .drainClose | .serveEnter => false
  | _ => true

/-- Stop walks through its own steps up to the wait for Serve; there Serve is at a position from which, with quit closed
and the listener closed by Stop, it can only move on towards its return, and a handler that is left has had its
connection closed by Stop. -/
theorem progress (s : L) (hi : Inv s) (ht : Tracked s)
    (hc : s.stopPc ≠ .idle) (hr : s.stopPc ≠ .returned) : ∃ l, internal l = true ∧ (step s l).isSome = true := by
  have hq : s.quit = true := hi.quitSet hc
  cases hp : s.stopPc with
  | idle => exact absurd hp hc
  | returned => exact absurd hp hr
  | quitClosed => exact ⟨.stopTake, rfl, by simp [step.eq_def, hp]⟩
  | regTaken => exact ⟨.stopLn, rfl, by simp [step.eq_def, hp]⟩
  | lnClosed => exact ⟨.stopConns, rfl, by simp [step.eq_def, hp]⟩
  | connsClosed =>
    have hreg : s.reg = none := hi.regGone.mpr (by simp [hp])
    cases hsv : s.serve with
    | notCalled =>
      have hss : s.sawStarted = false := Bool.eq_false_iff.mpr fun hx => hi.startedIff.mp (hi.sawStarted hx) hsv
      exact ⟨.stopWait, rfl, by simp [step.eq_def, hp, hss]⟩
    | returned => exact ⟨.stopWait, rfl, by simp [step.eq_def, hp, hi.doneIff.mpr hsv]⟩
    | entered => exact ⟨.seeQuit, rfl, by simp [step.eq_def, hsv, hq]⟩
    | checked => exact ⟨.bindOk, rfl, by simp [step.eq_def, hsv]⟩
    | bound => exact ⟨.publish, rfl, by simp [step.eq_def, hsv]⟩
    | serving => exact ⟨.acceptFail, rfl, by simp [step.eq_def, hsv, hi.lnClosed hsv (Or.inl ⟨hq, by simp [hp]⟩)]⟩
    | waitConns =>
      cases hh : s.handlers with
      | nil => exact ⟨.connsDone, rfl, by simp [step.eq_def, hsv, hh]⟩
      | cons x rest =>
        obtain ⟨id, b⟩ := x
        cases b with
        | false => exact ⟨.handlerAdd id, rfl, by simp [step.eq_def, hh, hreg]⟩
        | true =>
          have hm : (id, true) ∈ s.handlers := hh ▸ List.mem_cons_self
          have hcl : id ∈ s.closed := by simpa [hreg, hp] using ht id hm
          exact ⟨.handlerExit id, rfl, by simp [step.eq_def, hm, hcl]⟩

/-- **Stop is never stuck.** In every reachable state in which Stop has been called and has not
returned, Stop itself or one of the listener's goroutines has an enabled step — before the bind,
while the bind is retried, between bind and publication, in the accept loop, while handlers are
still running (their connections have been closed by Stop, so they return). -/
theorem stop_never_stuck (limit : Nat) (ls : List Label) (s : L) (h : run (init limit) ls = some s)
    (hc : s.stopPc ≠ .idle) (hr : s.stopPc ≠ .returned) : ∃ l, internal l = true ∧ (step s l).isSome = true :=
  progress s (inv_reach h) (isRun.inv tracked_step (fun _ h => by cases h) h) hc hr

/-- **Drain stops accepting.** Once StopListen has finished, no connection is accepted any
more — also when it ran before the listener was published. -/
theorem drain_stops_accepting (limit : Nat) (ls : List Label) (s : L) (h : run (init limit) ls = some s)
    (hd : s.drainPc = .finished) : step s .accept = none := by
  have hi := inv_reach h
  exact hi.no_accept (.inr ⟨hi.drainSet (by simp [hd]), by simp [hd]⟩)

/-- **Drain leaves established connections alone**: neither step of StopListen touches a
handler, the registry, or any connection. -/
theorem drain_leaves_connections (s s' : L) (l : Label) (hl : l = .drainClose ∨ l = .drainLn)
    (h : step s l = some s') : s'.handlers = s.handlers ∧ s'.reg = s.reg ∧ s'.closed = s.closed := by
  rcases hl with rfl | rfl <;> simp only [step.eq_def] at h <;> split at h <;> (try cases h) <;> simp_all

/-- **The limit is never exceeded.** -/
theorem limit_never_exceeded (limit : Nat) (hl : 0 < limit) (ls : List Label) (s : L)
    (h : run (init limit) ls = some s) : registered s ≤ limit :=
  (isRun.inv (bounded_step limit) ⟨rfl, fun _ => Nat.zero_le _⟩ h).2 hl

/-- **A connection under the limit is always served.** -/
theorem under_limit_served (s : L) (id : Nat) (r : List Nat) (hm : (id, false) ∈ s.handlers)
    (hr : s.reg = some r) (hl : s.limit = 0 ∨ r.length < s.limit) :
    ∃ s', step s (.handlerAdd id) = some s' ∧ (id, true) ∈ s'.handlers ∧ s'.reg = some (id :: r) := by
  have hlim : limitHit s.limit r.length = false := by
    rcases hl with h | h <;> simp [limitHit, h]
  simp [step.eq_def, hm, hr, hlim]

/-- The weights of `mu`.  The bind loop goes from `checked` back to `entered` on `bindFail`, so `checked` weighs more; the way
forward, `checkOk`, raises the weight and is not among the `winding` steps: with quit closed it is disabled.  A handler that
is not yet registered weighs 2, since `handlerAdd` may turn it into a registered one. -/
def wServe : ServePc → Nat
  | .notCalled => 0 | .entered => 4 | .checked => 5 | .bound => 3 | .serving => 2 | .waitConns => 1 | .returned => 0
def wStop : StopPc → Nat
  | .idle => 0 | .quitClosed => 4 | .regTaken => 3 | .lnClosed => 2 | .connsClosed => 1 | .returned => 0
def wDrain : DrainPc → Nat | .idle => 0 | .drainClosed => 1 | .finished => 0
def wHandlers : List (Nat × Bool) → Nat
  | [] => 0
  | (_, true) :: r => 1 + wHandlers r
  | (_, false) :: r => 2 + wHandlers r

def mu (s : L) : Nat := wServe s.serve + wStop s.stopPc + wDrain s.drainPc + wHandlers s.handlers

theorem wHandlers_cons (y : Nat × Bool) (r : List (Nat × Bool)) :
    wHandlers (y :: r) = (if y.2 then 1 else 2) + wHandlers r := by
  obtain ⟨_, b⟩ := y; cases b <;> rfl

theorem wHandlers_erase (l : List (Nat × Bool)) (x : Nat × Bool) (h : x ∈ l) :
    wHandlers (l.erase x) + (if x.2 then 1 else 2) = wHandlers l := by
  induction l with
  | nil => cases h
  | cons y r ih =>
    rw [List.erase_cons, wHandlers_cons]; split
    · next e => cases eq_of_beq e; exact Nat.add_comm _ _
    · next e =>
      rw [wHandlers_cons, Nat.add_assoc, ih ((List.mem_cons.mp h).resolve_left fun h' => e (beq_iff_eq.mpr h'.symm))]

/-- steps that cannot go on for ever: everything internal except accepting yet another client while the listener is still
open, and `checkOk`, by which the bind loop starts over -/
def winding : Label → Bool
  | .clientClose _ | .stopQuit | .drainClose | .serveEnter | .accept | .checkOk => false
  | _ => true

theorem winding_step_decreases (s s' : L) (l : Label) (hl : winding l = true) (hs : step s l = some s') :
    mu s' < mu s := by
  -- one `⟨⟩` is for `hl`: it closes the cases of the labels that are not winding
  revert hs hl; fun_cases step s l <;> rintro ⟨⟩ ⟨⟩ <;>
    simp only [mu, *, Nat.add_lt_add_iff_left, Nat.add_lt_add_iff_right] <;>
    first
    | decide  -- the weights of two positions
    | (have := wHandlers_erase s.handlers _ ‹_ ∈ s.handlers›  -- handlerAdd
       simp [wHandlers] at this ⊢; omega)
    | (have := wHandlers_erase s.handlers _ ‹_ ∈ s.handlers ∧ _›.1  -- handlerExit
       simp at this; omega)

/-- Stop has closed the listener -/
def closing (p : StopPc) : Prop := p = .lnClosed ∨ p = .connsClosed ∨ p = .returned

theorem closing_iff (p : StopPc) : closing p ↔ p ≠ .idle ∧ p ≠ .quitClosed ∧ p ≠ .regTaken := by
  cases p <;> simp [closing]

/-- **Stop terminates.** Every step of Stop and of the listener's goroutines other than accepting
yet another client strictly decreases `mu` (`winding_step_decreases`); and once Stop has closed the listener
(`stop_never_stuck` shows it gets there) nothing is accepted any more.  So from the moment Stop is called at most
`mu s` + (connections accepted in the meantime) steps remain before it returns. -/
theorem no_accept_after_stop_closed_the_listener {s : L} (hi : Inv s) (hc : closing s.stopPc) : step s .accept = none :=
  have hp := (closing_iff _).mp hc
  hi.no_accept (.inl ⟨hi.quitSet hp.1, hp.2⟩)

theorem closing_stays (s : L) (l : Label) (s' : L) (hc : closing s.stopPc) (hs : step s l = some s') : closing s'.stopPc := by
  revert hs; fun_cases step s l <;> rintro ⟨⟩ <;> first | exact hc | simp_all [closing]

/-- Once Stop has closed the listener an internal step is a winding one — nothing is accepted any more, and with quit
closed the bind loop cannot start over —, so it lowers `mu`; and the listener stays closed. -/
theorem closing_step (s : L) (l : Label) (s' : L) (hl : internal l = true) (hi : Inv s) (hc : closing s.stopPc)
    (hs : step s l = some s') : closing s'.stopPc ∧ mu s' < mu s := by
  refine ⟨closing_stays s l s' hc hs, winding_step_decreases s s' l ?_ hs⟩
  cases l with
  | accept => rw [no_accept_after_stop_closed_the_listener hi hc] at hs; cases hs
  | checkOk => simp [step.eq_def, hi.quitSet ((closing_iff _).mp hc).1] at hs
  | _ => first | rfl | cases hl  -- `rfl`: a winding label; `cases hl`: not internal

/-- **Stop completes under every schedule.** Once Stop has closed the listener, let Stop and the
listener's goroutines run in any order (clients may close connections, nothing else happens from
outside): every such schedule has at most `mu s` steps, and when nothing can move any more Stop
has returned. -/
theorem stop_completes (limit : Nat) : ∀ (ls : List Label) (pre : List Label) (s : L),
    run (init limit) pre = some s → closing s.stopPc → (∀ l ∈ ls, internal l = true) →
    ∀ s', run s ls = some s' →
      mu s' + ls.length ≤ mu s ∧ closing s'.stopPc ∧ ∃ pre', run (init limit) pre' = some s' := by
  intro ls pre s h hc hint s' hr
  obtain ⟨_, hc', hm⟩ := isRun.bounded (A := fun l => internal l = true) inv_step closing_step hint (inv_reach h) hc hr
  exact ⟨hm, hc', pre ++ ls, by rw [isRun.append, h]; exact hr⟩

/-- the other half of `stop_completes`: a schedule that cannot be continued has ended with Stop returned -/
theorem stuck_means_returned (limit : Nat) (pre : List Label) (s : L) (h : run (init limit) pre = some s)
    (hc : closing s.stopPc) (hstuck : ∀ l, internal l = true → step s l = none) : s.stopPc = .returned :=
  Lts.done_of_stuck (stop_never_stuck limit pre s h ((closing_iff _).mp hc).1) hstuck

/-- `step` before c3fc390: Serve returns on quit without closing done -/
def stepOldNoDone (s : L) : Label → Option L
  | .seeQuit => if s.serve = .entered ∧ (s.quit ∨ s.drain) then some { s with serve := .returned } else none
  | l => step s l

def runWith (f : L → Label → Option L) (s : L) : List Label → Option L
  | [] => some s
  | l :: ls => match f s l with | some s' => runWith f s' ls | none => none

/-- F-09a: Stop called while Serve is still before the bind then waits for ever. -/
theorem old_stop_before_bind_hangs :
    ∃ s, runWith stepOldNoDone (init 0) [.serveEnter, .stopQuit, .stopTake, .stopLn, .stopConns, .seeQuit] = some s ∧
      s.stopPc = .connsClosed ∧ s.serve = .returned ∧
      ∀ l, internal l = true → stepOldNoDone s l = none := by
  refine ⟨_, rfl, rfl, rfl, ?_⟩
  intro l hl
  cases l <;>
    first
    | rfl  -- the step evaluates to `none`
    | cases hl  -- not internal: `clientClose`, `stopQuit`, `drainClose`, `serveEnter`
    | simp [stepOldNoDone, step, init]  -- `handlerAdd`, `handlerExit`: no handler is there

/-- `step` before da662b2: quit and drain are not checked again after the publication -/
def stepOldNoRecheck (s : L) : Label → Option L
  | .publish => if s.serve = .bound then some { s with serve := .serving, lnPublished := true } else none
  | l => step s l

/-- F-09b: a Stop that ran between bind and publication leaves the port open and accepting, and waits for ever. -/
theorem old_stop_between_bind_and_publication :
    ∃ s, runWith stepOldNoRecheck (init 0)
      [.serveEnter, .checkOk, .bindOk, .stopQuit, .stopTake, .stopLn, .stopConns, .publish] = some s ∧
      s.stopPc = .connsClosed ∧ s.lnOpen = true ∧ (stepOldNoRecheck s .accept).isSome = true ∧
      stepOldNoRecheck s .stopWait = none ∧ stepOldNoRecheck s .acceptFail = none :=
  ⟨_, rfl, rfl, rfl, rfl, rfl, rfl⟩

/-- the same two histories on `step`: Stop returns -/
example : ∃ s, run (init 0) [.serveEnter, .stopQuit, .stopTake, .stopLn, .stopConns, .seeQuit, .stopWait] = some s ∧
    s.stopPc = .returned := ⟨_, rfl, rfl⟩
example : ∃ s, run (init 0)
    [.serveEnter, .checkOk, .bindOk, .stopQuit, .stopTake, .stopLn, .stopConns, .publish, .acceptFail, .connsDone, .stopWait]
      = some s ∧ s.stopPc = .returned ∧ s.lnOpen = false := ⟨_, rfl, rfl, rfl⟩

/-- Stop with one registered and one not yet registered connection -/
example : ∃ s, run (init 0)
    [.serveEnter, .checkOk, .bindOk, .publish, .accept, .handlerAdd 0, .accept, .stopQuit, .stopTake, .stopLn,
     .stopConns, .handlerAdd 1, .acceptFail, .handlerExit 0, .connsDone, .stopWait] = some s ∧
    s.stopPc = .returned ∧ s.handlers = [] ∧ s.closed = [1, 0] := ⟨_, rfl, rfl, rfl, rfl⟩

theorem code_matches_model :
    Gen.Listener.serve =
      ["ip := l.cfg.GetAddress().GetIp()",
      "port := l.cfg.GetAddress().GetPort()",
      "address := fmt.Sprintf(\"%s:%d\", ip, port)",
      "l.mu.Lock()",
      "l.started = true",
      "l.mu.Unlock()",
      "defer close(l.done)",
      "verifPause(\"listener.serve.enter\", l)",
      "var ln net.Listener",
      "for { select { case <-l.quit: return nil case <-l.drain: return nil default: } var err error ln, err = defaultListenFunc(\"tcp\", address) if err == nil { break } l.Warnf(\"listen on %s failed: %v, will keep trying...\", address, err) t := time.NewTimer(time.Millisecond * 500) select { case <-t.C: case <-l.drain: return nil case <-l.quit: return nil } }",
      "verifPause(\"listener.bound\", l)",
      "l.mu.Lock()",
      "l.ln = ln",
      "l.mu.Unlock()",
      "select { case <-l.quit: ln.Close() case <-l.drain: ln.Close() default: }",
      "l.Infof(\"start serving at %s\", ln.Addr().String())",
      "l.serve()",
      "l.Infof(\"stop serving at %s, waiting all conns done\", ln.Addr().String())",
      "l.connsWg.Wait()",
      "l.Infof(\"all conns done\")",
      "return nil"] ∧
    Gen.Listener.acceptLoop =
      ["var tempDelay time.Duration",
      "for { conn, err := l.ln.Accept() if err != nil { if nerr, ok := err.(net.Error); ok && nerr.Temporary() { if tempDelay == 0 { tempDelay = 5 * time.Millisecond } else { tempDelay *= 2 } if max := 1 * time.Second; tempDelay > max { tempDelay = max } l.Warnf(\"accept failed: %v; retrying in %s\", err, tempDelay) timer := time.NewTimer(tempDelay) select { case <-timer.C: case <-l.quit: timer.Stop() return } continue } select { case <-l.drain: return case <-l.quit: return default: } l.Warnf(\"done serving; accept failed: %v\", err) return } l.connsWg.Add(1) go func(conn net.Conn) { l.handleRawConn(conn) l.connsWg.Done() }(conn) }"] ∧
    Gen.Listener.handleRawConn =
      ["conn := l.wrapRawConn(rawConn)",
      "connCreatedAt := time.Now()",
      "if !l.addConn(conn) { conn.Close() return }",
      "l.Debugf(\"%s -> %s created\", conn.RemoteAddr(), l.ln.Addr().String())",
      "defer func() { conn.Close() l.removeConn(conn) l.Debugf(\"%s -> %s finished, duration: %s\", conn.RemoteAddr(), l.ln.Addr().String(), time.Since(connCreatedAt).String()) }()",
      "if l.connHandleFn == nil { l.Warnf(\"conn handle fn is nil, will close conn immediately\") return }",
      "l.connHandleFn(conn)"] ∧
    Gen.Listener.addConn =
      ["l.mu.Lock()",
      "defer l.mu.Unlock()",
      "if l.conns == nil { return false }",
      "if l.connsLimit() { l.stats.CxRestricted.Inc() l.Warnf(\"connections limit, %s -> %s, will close\", conn.RemoteAddr().String(), l.ln.Addr().String()) return false }",
      "l.conns[conn] = struct{}{}",
      "l.stats.CxTotal.Inc()",
      "l.stats.CxActive.Inc()",
      "return true"] ∧
    Gen.Listener.removeConn =
      ["l.mu.Lock()",
      "defer l.mu.Unlock()",
      "if l.conns == nil { return }",
      "if _, ok := l.conns[conn]; !ok { return }",
      "delete(l.conns, conn)",
      "l.stats.CxDestroyTotal.Inc()",
      "l.stats.CxActive.Dec()"] ∧
    Gen.Listener.connsLimit =
      ["limit := l.cfg.ConnectionLimit",
      "if limit == 0 || uint32(len(l.conns)) < limit { return false }",
      "return true"] ∧
    Gen.Listener.drain =
      ["l.drainOnce.Do(func() { close(l.drain) })",
      "if ln := l.published(); ln != nil { ln.Close() }",
      "return nil"] ∧
    Gen.Listener.stop =
      ["l.quitOnce.Do(func() { close(l.quit) })",
      "l.mu.Lock()",
      "started := l.started",
      "conns := l.conns",
      "l.conns = nil",
      "ln := l.ln",
      "for range conns { l.stats.CxDestroyTotal.Inc() l.stats.CxActive.Dec() }",
      "l.mu.Unlock()",
      "verifPause(\"listener.stop.taken\", l)",
      "if ln != nil { ln.Close() }",
      "for conn := range conns { conn.Close() }",
      "if started { <-l.done }",
      "return nil"] ∧
    Gen.Listener.redisStop =
      ["p.u.Stop()",
      "p.l.Stop()",
      "p.wg.Wait()",
      "return nil"] ∧
    Gen.Listener.tcpStop =
      ["p.quitOnce.Do(func() { close(p.quit) })",
      "p.hm.Stop()",
      "p.ln.Stop()",
      "p.wg.Wait()",
      "return nil"] ∧
    Gen.Listener.upstreamStop =
      ["close(u.quit)",
      "if atomic.LoadInt32(&u.started) == 1 { <-u.done }"] ∧
    Gen.Listener.upstreamServe =
      ["atomic.StoreInt32(&u.started, 1)",
      "var wg sync.WaitGroup",
      "wg.Add(2)",
      "go func() { defer wg.Done() u.loopRefreshSlots() }()",
      "go func() { defer wg.Done() u.hkc.Run(u.quit) }()",
      "wg.Wait()",
      "u.clientsMu.Lock()",
      "clients := u.loadClients()",
      "u.clientsMu.Unlock()",
      "for _, c := range clients { c.Stop() }",
      "close(u.done)"] ∧
    Gen.Listener.sessionLoopWrite =
      ["var ( req *rawRequest err error )",
      "for { select { case <-s.quit: return case req = <-s.processingReqs: } select { case <-req.done: default: if err = s.enc.Flush(); err != nil { goto FAIL } select { case <-req.done: case <-s.quit: return } } resp := req.Response() if err = s.enc.Encode(resp); err != nil { goto FAIL } if len(s.processingReqs) != 0 { continue } if err = s.enc.Flush(); err != nil { goto FAIL } }",
      "FAIL: s.p.logger.Warnf(\"loop write exit: %v\", err)"] ∧
    Gen.Listener.refreshWaits =
      ["if err != nil | return",
      "go | select <-req.done | return",
      "u.MakeRequestToHost",
      "select <-giveUp | select <-u.quit | return",
      "select <-giveUp | select default | return",
      "if resp.Type == Error | return",
      "if resp.Type != BulkString | return",
      "if err != nil | return"] ∧
    Gen.Listener.tcpWatcher =
      ["if len(healthyHosts) == 0 | return",
      "if err != nil | return",
      "defer | sconn.Close",
      "go | select <-host.WaitRemoved() | sconn.Close",
      "go | select <-host.WaitRemoved() | cconn.Close",
      "go | select <-host.WaitRemoved() | return",
      "go | select <-p.quit | sconn.Close",
      "go | select <-p.quit | cconn.Close",
      "go | select <-p.quit | return",
      "go | select <-finished | return"] := by
  refine ⟨rfl, rfl, rfl, rfl, rfl, rfl, rfl, rfl, rfl, rfl, rfl, rfl, rfl, rfl, rfl⟩

/-- **The code the model was written against.** The statements of the modelled functions,
regenerated from the current source on every run, are the ones the model was written against;
any edit to one of them makes this obligation fail and starts a search for a failing input. -/
theorem session_loops_match_model :
    Gen.Session.serve =
      ["writeDone := make(chan struct{})",
      "go func() { s.loopWrite() s.conn.Close() s.doQuit() close(writeDone) }()",
      "s.loopRead()",
      "s.conn.Close()",
      "s.doQuit()",
      "<-writeDone",
      "close(s.done)"] ∧
    Gen.Session.loopRead =
      ["for { v, err := s.dec.Decode() if err != nil { if err != io.EOF { s.p.logger.Warnf(\"loop read exit: %v\", err) } return } req := newRawRequest(v) s.p.handleRequest(req) select { case s.processingReqs <- req: case <-s.quit: return } }"] ∧
    Gen.Session.loopWrite =
      ["var ( req *rawRequest err error )",
      "for { select { case <-s.quit: return case req = <-s.processingReqs: } select { case <-req.done: default: if err = s.enc.Flush(); err != nil { goto FAIL } select { case <-req.done: case <-s.quit: return } } resp := req.Response() if err = s.enc.Encode(resp); err != nil { goto FAIL } if len(s.processingReqs) != 0 { continue } if err = s.enc.Flush(); err != nil { goto FAIL } }",
      "FAIL: s.p.logger.Warnf(\"loop write exit: %v\", err)"] := by
  refine ⟨rfl, rfl, rfl⟩

/-- **The code the model was written against.** The statements of the modelled functions,
regenerated from the current source on every run, are the ones the model was written against;
any edit to one of them makes this obligation fail and starts a search for a failing input. -/
theorem table_removal_matches_model :
    Gen.Upstream.createClient =
      ["u.clientsMu.Lock()",
      "select { case <-u.quit: u.clientsMu.Unlock() return nil, errors.New(upstreamExited) default: }",
      "c, ok := u.loadClients()[addr]",
      "u.clientsMu.Unlock()",
      "if ok { return c, nil }",
      "conn, err := netutil.Dial(\"tcp\", addr, *u.cfg.ConnectTimeout)",
      "if err != nil { return nil, err }",
      "options := []clientOption{ withKeyCounter(u.hkc.AllocCounter(addr)), withRedirectionCb(u.handleRedirection), withClusterDownCb(u.handleClusterDown), }",
      "c, err = newClient(conn, u.cfg, u.logger, options...)",
      "if err != nil { conn.Close() return nil, err }",
      "u.clientsMu.Lock()",
      "defer u.clientsMu.Unlock()",
      "select { case <-u.quit: conn.Close() return nil, errors.New(upstreamExited) default: }",
      "verifPause(\"upstream.client.checked\", u)",
      "if existing, ok := u.loadClients()[addr]; ok { conn.Close() return existing, nil }",
      "go func() { c.Start() u.removeEndedClient(addr, c) }()",
      "u.addClientLocked(addr, c)",
      "return c, nil"] ∧
    Gen.Upstream.removeClient =
      ["u.clientsMu.Lock()",
      "defer u.clientsMu.Unlock()",
      "u.removeClientLocked(addr)"] ∧
    Gen.Upstream.removeEndedClient =
      ["u.clientsMu.Lock()",
      "defer u.clientsMu.Unlock()",
      "if cur, ok := u.loadClients()[addr]; !ok || cur != c { return }",
      "u.removeClientLocked(addr)"] ∧
    Gen.Upstream.resetAllClients =
      ["old := u.loadClients()",
      "u.clientsMu.Lock()",
      "u.updateClients(make(map[string]*client))",
      "u.clientsMu.Unlock()",
      "for _, client := range old { client.Stop() }"] := by
  refine ⟨rfl, rfl, rfl, rfl⟩

end SamVerif.Props.C09

namespace SamVerif.Props.C09u
open SamVerif.UpStop

/-- **Stopping the upstream completes and leaves no connection behind** (as repaired): from the
moment Stop has closed quit, every schedule of Serve's wind-down, of the read loop that is in the
middle of a redirection and of the pending dial is finite, and when nothing can move any more
Stop has returned and neither the client whose read loop it was nor the one the redirection
created is running. -/
theorem upstream_stop_completes (pre : List Label) (u : U) (h : run { fixed := true } pre = some u)
    (hc : stopCalled u.sp) (ls : List Label) (hint : ∀ l ∈ ls, internal l = true) (u' : U) (hr : run u ls = some u') :
    ls.length ≤ mu u ∧
    ((∀ l, internal l = true → step u' l = none) → u'.sp = .returned ∧ u'.aRunning = false ∧ u'.bRunning = false) := by
  obtain ⟨hm, hi', _, hdone⟩ := isRun.completes (A := fun l => internal l = true) (Done := fun u => u.sp = .returned)
    inv_step (fun u l u' hl _ hc hs => ⟨stopCalled_stays u l u' hc hs, internal_decreases u l u' hl hs⟩) progress hint
    (isRun.inv inv_step inv_init h) hc hr
  exact ⟨hm, fun hstuck => ⟨hdone hstuck, hi'.ret (hdone hstuck)⟩⟩

/-- F-09h, the behaviour before the repair: Serve stopped the clients while holding clientsMu.
A read loop that has passed the quit check of MakeRequestToHost just before Stop closes quit then
waits for the lock in createClient, while Serve — holding the lock — waits for that read loop to
end: nothing can move any more and Stop has not returned. -/
theorem old_stop_holding_the_lock_deadlocks :
    ∃ u, run { fixed := false } [.redirect, .stopQuit, .stopLock] = some u ∧ u.sp ≠ .returned ∧ ∀ l, step u l = none := by
  refine ⟨_, rfl, by decide, ?_⟩
  intro l
  cases l <;> rfl

/-- the same schedule on the repaired code: the lock is released, the read loop gets it, sees quit, and everything winds down -/
example : ∃ u, run { fixed := true } [.redirect, .stopQuit, .stopLock, .stopUnlock, .rlLock, .stopA, .stopReturn] = some u
    ∧ u.sp = .returned ∧ u.aRunning = false := ⟨_, rfl, by decide⟩

/-- a connection established just before Stop is in Serve's snapshot and stopped with the rest -/
example : ∃ u, run { fixed := true } [.redirect, .rlLock, .dialDone, .stopQuit, .stopLock, .stopUnlock, .stopA, .stopB, .stopReturn] = some u
    ∧ u.sp = .returned ∧ u.bRunning = false := ⟨_, rfl, by decide⟩

/-- a connect still in progress when Stop takes its snapshot: when it completes quit is closed, the new connection is closed
instead of being published (nothing is left behind although Stop did not wait for it) -/
example : ∃ u, run { fixed := true } [.redirect, .rlLock, .stopQuit, .stopLock, .stopUnlock, .dialDone, .stopA, .stopReturn] = some u
    ∧ u.sp = .returned ∧ u.bRunning = false ∧ u.rl = .done := ⟨_, rfl, by decide⟩

end SamVerif.Props.C09u

namespace SamVerif.Props.C09s
open SamVerif.ProcStop

/-- **Stop of a Redis service returns whatever its clients have in flight** (as repaired, F-09i:
upstream first): for every queue capacity, every number of requests a client has pipelined to a
backend that never answers, and every interleaving of the session's reader and writer with Stop —
from the moment the listener has closed the connection every schedule is finite, and when nothing
can move any more Stop has returned and both loops of the session are gone. -/
theorem stop_returns_behind_unanswered_requests (cap n : Nat) (hcap : 0 < cap) (pre : List Label) (p : P)
    (h : run { upstreamFirst := true, cap := cap, toRead := n } pre = some p) (hc : p.connClosed = true)
    (ls : List Label) (p' : P) (hr : run p ls = some p') :
    ls.length ≤ mu p ∧ ((∀ l, step p' l = none) → p'.stopPc = 3 ∧ p'.rd = .exited ∧ p'.wr = .exited) := by
  obtain ⟨hm, hi', _, hdone⟩ := isRun.completes_any (Done := fun p => p.stopPc = 3) inv_step closed_step progress
    (isRun.inv inv_step (inv_init cap n hcap) h) hc hr
  exact ⟨hm, fun hstuck => ⟨hdone hstuck, hi'.ret (hdone hstuck)⟩⟩

/-- the requests of F-09i: 34 pipelined requests, a queue of 32 — the writer holds the first, 32 are queued, the reader holds the 34th -/
def fill : List Label :=
  [.rDecode, .rEnqueue, .wTake] ++ (List.replicate 32 [Label.rDecode, Label.rEnqueue]).flatten ++ [.rDecode]

/-- F-09i, the behaviour before the repair (listener first): the listener closes the connection,
the reader waits for room, the writer for a reply, neither reads from the connection — nothing can
move any more and Stop has not returned (the upstream, whose Stop would answer the requests, comes
after the listener). -/
theorem old_stop_order_hangs :
    ∃ p, run { upstreamFirst := false, cap := 32, toRead := 34 } (fill ++ [.stopListener]) = some p ∧
      p.stopPc ≠ 3 ∧ ∀ l, step p l = none := by
  refine ⟨_, rfl, by decide, ?_⟩
  intro l
  cases l <;> rfl

/-- the same history on the repaired order winds down -/
example : ∃ p, run { upstreamFirst := true, cap := 32, toRead := 34 }
    (fill ++ [.stopUpstream, .stopListener, .wWriteFails, .rQuit, .stopWaited]) = some p ∧ p.stopPc = 3 := ⟨_, rfl, by decide⟩

end SamVerif.Props.C09s

namespace SamVerif.Props.C09r
open SamVerif.RedirStop

/-- any number of pending redirections, any room in the silent node's queue, either order of the two connections -/
def start (aFirst held : Bool) (room pending : Nat) : S := { aFirst := aFirst, room := room, pendingRedir := pending, held := held }

/-- **Stop returns although a read loop is resending into the full queue of a silent node** (F-09j, since 9cd2b0b): whatever
the order in which the connections are stopped, whatever is pending — once Serve has begun to stop the connections, every
schedule is finite (at most `mu` steps) and a schedule that cannot be continued has ended with Stop returned, the read loop
gone and the silent node's connection closed. -/
theorem stop_returns_with_a_reader_in_a_full_queue (aFirst held : Bool) (room pending : Nat) (ls : List Label) (s : S)
    (hr : run (start aFirst held room pending) ls = some s) (hp : s.pc ≠ .running) :
    (∀ ls' s', run s ls' = some s' → ls'.length ≤ mu s) ∧
    (∀ ls' s', run s ls' = some s' → (∀ l, step s' l = none) → s'.pc = .returned ∧ s'.rd = .exited ∧ s'.bLoops = false) := by
  have hs : Repaired s := isRun.inv repaired_step (by constructor <;> simp [RedirStop.Inv, start]) hr
  have hw := fun ls' s' (h' : run s ls' = some s') =>
    isRun.completes_any (Done := fun x => x.pc = .returned) repaired_step
      (fun a l b _ hc hs => ⟨stopping_stays a l b hc hs, step_decreases a l b hs⟩)
      (fun a h => progress a h.inv h.abort h.turnAbort) hs hp h'
  refine ⟨fun ls' s' h' => (hw ls' s' h').1, fun ls' s' h' hstuck => ?_⟩
  obtain ⟨_, hi', _, hdone⟩ := hw ls' s' h'
  exact ⟨hdone hstuck, hi'.gone (hdone hstuck)⟩

/-- **Before 9cd2b0b**: `Send` gave up only on the *target's* quit.  One redirection pending, no room in the silent node's queue,
the redirecting connection first in the map: Stop closes its quit and waits for a read loop that waits for room — nothing can move. -/
theorem old_send_ignores_its_own_quit :
    ∃ s, run { abort := false, aFirst := true, room := 0, pendingRedir := 1 } [.reply, .stop, .close] = some s ∧
      s.pc = .waitFirst ∧ s.rd = .sending ∧ ∀ l, step s l = none := by
  refine ⟨_, rfl, rfl, rfl, ?_⟩
  intro l; cases l <;> rfl

/-- the same schedule on the repaired code: the read loop gives up, ends, and Stop goes on to the silent node's connection and returns -/
example : ∃ s, run (start true false 0 1) [.reply, .stop, .close, .aborted, .readerExits, .waited, .close, .bExits, .waited] = some s ∧
    s.pc = .returned := ⟨_, rfl, rfl⟩

/-- **With the turn guarded by a mutex** (cf7dbc3 … 058c6b1, the first repair of F-04d): a session's Send for the silent node has the turn and
waits for room; the read loop that follows an ASK waits for the turn inside `Lock()`, which no quit can interrupt — Stop closes its
connection's quit and waits for it for ever (F-09l). -/
theorem old_turn_wait_ignores_every_quit :
    ∃ s, run { turnAbort := false, aFirst := true, room := 0, pendingRedir := 1, held := true } [.reply, .stop, .close] = some s ∧
      s.pc = .waitFirst ∧ s.rd = .queuing ∧ ∀ l, step s l = none := by
  refine ⟨_, rfl, rfl, rfl, ?_⟩
  intro l; cases l <;> rfl

/-- the same schedule on the repaired code: the wait for the turn gives up, Stop returns -/
example : ∃ s, run (start true true 0 1) [.reply, .stop, .close, .queueGivesUp, .readerExits, .waited, .close, .bExits, .holderLeaves, .waited] = some s ∧
    s.pc = .returned := ⟨_, rfl, rfl⟩

end SamVerif.Props.C09r

namespace SamVerif.Props.C09t
open SamVerif.TableReplace

/-- **No connection is left running after Stop** (F-09k, since 00e042f): after any history of requests making connections, host
lists being replaced, backends closing connections and ended connections taking themselves out of the table, the Stop of the
upstream — which stops what the table holds — leaves no connection running that nobody has told to stop. -/
theorem stop_leaves_nothing_running (ls : List Label) (s s' : T) (hr : run {} ls = some s) (hs : step s .stop = some s') :
    s'.running = [] := by
  have h := inv_reach hr
  simp only [step.eq_def] at hs
  split at hs <;> cases hs
  · exact List.filter_eq_nil_iff.mpr fun a ha => by simp [Option.some.inj ((h.inTable a ha).symm.trans ‹_›)]
  · exact List.eq_nil_iff_forall_not_mem.mpr fun a ha => nomatch (h.inTable a ha).symm.trans ‹s.table = none›

/-- at most one connection per address is running at any time -/
theorem at_most_one_running (ls : List Label) (s : T) (hr : run {} ls = some s) (a b : Nat) (ha : a ∈ s.running) (hb : b ∈ s.running) :
    a = b := by
  have h := inv_reach hr
  have := h.inTable a ha; rw [h.inTable b hb] at this; cases this; rfl

/-- **Before 00e042f** an ended connection removed whatever the table held for its address: the hosts are replaced while connection 0
exists; before connection 0 has taken itself out, a request makes connection 1; connection 0 then removes connection 1 from the
table; the next request makes connection 2; Stop stops connection 2 — connection 1 runs on, used and stopped by nobody. -/
theorem old_removal_by_address_orphans_a_connection :
    ∃ s, run { old := true } [.create, .replaceAll, .create, .ended 0, .create, .stop] = some s ∧ s.running = [1] := by
  refine ⟨_, rfl, rfl⟩

example : ∃ s, run {} [.create, .replaceAll, .create, .ended 0, .stop] = some s ∧ s.running = [] ∧ s.stopping = [1] := ⟨_, rfl, rfl, rfl⟩

end SamVerif.Props.C09t

#print axioms SamVerif.Props.C09.stop_releases
#print axioms SamVerif.Props.C09.stop_never_stuck
#print axioms SamVerif.Props.C09.winding_step_decreases
#print axioms SamVerif.Props.C09.no_accept_after_stop_closed_the_listener
#print axioms SamVerif.Props.C09.drain_stops_accepting
#print axioms SamVerif.Props.C09.drain_leaves_connections
#print axioms SamVerif.Props.C09.limit_never_exceeded
#print axioms SamVerif.Props.C09.under_limit_served
#print axioms SamVerif.Props.C09.old_stop_before_bind_hangs
#print axioms SamVerif.Props.C09.old_stop_between_bind_and_publication
#print axioms SamVerif.Props.C09.code_matches_model
#print axioms SamVerif.Props.C09.stop_completes
#print axioms SamVerif.Props.C09.stuck_means_returned
#print axioms SamVerif.Props.C09u.upstream_stop_completes
#print axioms SamVerif.Props.C09u.old_stop_holding_the_lock_deadlocks
#print axioms SamVerif.Props.C09s.stop_returns_behind_unanswered_requests
#print axioms SamVerif.Props.C09s.old_stop_order_hangs
#print axioms SamVerif.Props.C09.session_loops_match_model
#print axioms SamVerif.Props.C09r.stop_returns_with_a_reader_in_a_full_queue
#print axioms SamVerif.Props.C09r.old_send_ignores_its_own_quit
#print axioms SamVerif.Props.C09t.stop_leaves_nothing_running
#print axioms SamVerif.Props.C09t.at_most_one_running
#print axioms SamVerif.Props.C09t.old_removal_by_address_orphans_a_connection
#print axioms SamVerif.Props.C09.table_removal_matches_model
#print axioms SamVerif.Props.C09r.old_turn_wait_ignores_every_quit
