/-
C02 — every request handed to a backend connection is answered exactly once, whatever the
timing of connection loss, backend close and shutdown.

`Client.step` is the labelled transition system of proc/redis/upstream.go's `client` as repaired:
  508a3c1  the writer answers the request it holds when the connection quits           (F-02a)
  65fa5ab  Send enqueues under a read lock, the final drain starts under the write lock  (F-02b/c)
  87ff5ea  the reader does not wait for ever for the request of an unsolicited reply     (F-02d)
  2a2e081  the writer's exit closes the quit latch                                        (F-02e)
The statements of the functions involved are regenerated from the source on every run and
compared with what the model was written against (`code_matches_model`); behaviour is tied by
the differential run of the real connection under forced interleavings (pause points), where
the driver explores every interleaving of the model that the forced schedule allows and checks
that the observed outcome is one of them.
-/
import SamVerif.Proofs.Client
import SamVerif.Gen.Client
namespace SamVerif.Props.C02
open SamVerif.Client

/-- **Never twice.** In every reachable state — any interleaving of senders, writer, reader,
Start's tail, Stop and connection failures — no Send call has been completed more than once. -/
theorem answered_at_most_once (cap : Nat) (ls : List Label) (s : Cl) (h : run (init cap) ls = some s) (id : Nat) :
    (ansIds s).count id ≤ 1 := by
  have hi := good_reach h
  exact Nat.le_trans (Nat.le_add_left _ _) (hi.part id ▸ hi.fresh id)

/-- **Exactly once.** Once the connection is done (Start has returned), every Send call made
so far — before, during or after the shutdown — has been completed exactly once, and nothing is
left in a queue, in the writer's hand or inside Send; a Send call that is still waiting for its turn
is answered as soon as it takes it (`waiting_send_after_done_answered`: the turn is free). -/
theorem all_answered_when_done (cap : Nat) (ls : List Label) (s : Cl) (h : run (init cap) ls = some s)
    (hd : s.done = true) : places s = s.waiting ∧ ∀ id ∈ s.accepted, id ∉ s.waiting → (ansIds s).count id = 1 := by
  have hi := good_reach h
  have hfin := hi.doneIff.mp hd
  have hpl : places s = s.waiting := by
    simp [places, hi.drainedNoLocked (hi.drainedIff.mpr (.inr hfin)), hi.finishedEmpty hfin, inWriter,
      hi.writerGone (.inr (.inr hfin))]
  refine ⟨hpl, fun id hid hnw => ?_⟩
  have hp := hi.part id
  rw [cnt, hpl, List.count_eq_zero.mpr hnw, Nat.zero_add] at hp
  exact hp ▸ Nat.le_antisymm (hi.fresh id) (List.count_pos_iff.mpr hid)

/-- a Send call that arrives after the drain waits for its turn like every other -/
theorem send_after_done_accepted (s : Cl) (id : Nat) (hf : id ∉ s.accepted) :
    ∃ s', step s (.sendBegin id) = some s' ∧ id ∈ s'.waiting := by
  refine ⟨{ s with accepted := id :: s.accepted, waiting := id :: s.waiting }, by simp [step.eq_def, hf], by simp⟩

/-- … and after the drain the turn is free and whoever takes it is answered on the spot -/
theorem waiting_send_after_done_answered (s : Cl) (id : Nat) (hi : Client.Inv s) (hd : s.drained = true) (hw : id ∈ s.waiting) :
    ∃ s', step s (.turnTake id) = some s' ∧ (id, How.error) ∈ s'.answered := by
  have hl := hi.drainedNoLocked hd
  refine ⟨answer { s with waiting := s.waiting.erase id } id .error, by simp [step.eq_def, hw, hl, hd], ?_⟩
  simp [answer]

/-- steps of the connection's own goroutines (everything but a new Send call, Stop, and the
network breaking) -/
def internal : Label → Bool
  | .sendBegin _ | .stop | .connBreak => false
  | _ => true

def wW : WPc → Nat | .top => 1 | .hold _ => 6 | .handoff _ => 4 | .exited => 0
def wR : RPc → Nat | .decode => 2 | .have => 1 | .exited => 0
def wS : SPc → Nat | .waitReader => 5 | .waitWriter => 4 | .lockDrain => 3 | .drain => 2 | .finished => 0

/-- a bound on the work the connection's goroutines can still do without new input: a request weighs less in every place
further down the line (12, 10, 8, then 6 and 4 inside `wW` while the writer holds it, 2, and nothing once answered), a goroutine
less at every later point of its loop; `top` weighs 1 so that the writer's exit from there counts -/
def mu (s : Cl) : Nat :=
  12 * s.waiting.length + 10 * s.locked.length + 8 * s.pending.length + wW s.writer + 2 * s.processing.length + wR s.reader + wS s.starter

/-- **Every internal step makes progress**: the measure strictly decreases, so without new
Send calls the connection's goroutines come to rest after at most `mu s` steps. -/
theorem internal_step_decreases (s s' : Cl) (l : Label) (hl : internal l = true) (hs : step s l = some s') :
    mu s' < mu s := by
  cases Step.of_step hs with
  | sendBegin | stop | connBreak => cases hl
  | turnTake hm he =>
    simp +arith only [mu, he, List.length_cons, List.length_nil, ← length_erase_add_one hm]
  | turnTakeDrained hm | turnQuit hm | turnAbort hm | sendEnq hm | sendQuit hm | sendAbort hm =>
    simp +arith only [mu, answer, List.length_append, List.length_singleton, ← length_erase_add_one hm]
  | wTake hw hq | rPair hw hq | sDrainPending hw hq | sDrainProcessing hw hq =>
    simp +arith only [mu, answer, hw, hq, wW, wR, wS, List.length_cons]
  | wQuitTop hw | wFilterStop hw | wEncodeOk hw | wEncodeFail hw | wHandoff hw | wHandoffQuit hw | rDecodeOk hw | rDecodeErr hw
  | rPairQuit hw | sReaderGone hw | sWriterGone hw | sLock hw | sDrainDone hw =>
    simp +arith only [mu, answer, hw, wW, wR, wS, List.length_append, List.length_singleton]

/-- **Shutdown always completes.** In every state in which the quit latch is closed
(Stop was called, the reader saw the connection fail, or the writer left) and Start has not
returned yet, one of the connection's own goroutines has an enabled step.  With
`internal_step_decreases`: after at most `mu s` such steps the connection is done, so Stop
returns and — by `all_answered_when_done` — every request has its answer. -/
theorem progress_after_quit {s : Cl} (hi : s.done = true ↔ s.starter = .finished)
    (hq : s.quit = true) (hnd : s.done = false) : ∃ l, internal l = true ∧ (step s l).isSome = true := by
  cases hl : s.locked with
  | cons a rest => exact ⟨.sendQuit a, rfl, by simp [step.eq_def, hl, hq]⟩
  | nil =>
    cases hst : s.starter with
    | waitReader =>
      cases hr : s.reader with
      | decode => exact ⟨.rDecodeErr, rfl, by simp [step.eq_def, hr]⟩
      | «have» => exact ⟨.rPairQuit, rfl, by simp [step.eq_def, hr, hq]⟩
      | exited => exact ⟨.sReaderGone, rfl, by simp [step.eq_def, hr, hst]⟩
    | waitWriter =>
      cases hw : s.writer with
      | top => exact ⟨.wQuitTop, rfl, by simp [step.eq_def, hw, hq]⟩
      | hold a => exact ⟨.wEncodeFail, rfl, by simp [step.eq_def, hw]⟩
      | handoff a => exact ⟨.wHandoffQuit, rfl, by simp [step.eq_def, hw, hq]⟩
      | exited => exact ⟨.sWriterGone, rfl, by simp [step.eq_def, hw, hst]⟩
    | lockDrain => exact ⟨.sLock, rfl, by simp [step.eq_def, hst, hl]⟩
    | drain =>
      cases hp : s.pending with
      | cons a rest => exact ⟨.sDrainPending, rfl, by simp [step.eq_def, hst, hp]⟩
      | nil =>
        cases hpr : s.processing with
        | cons a rest => exact ⟨.sDrainProcessing, rfl, by simp [step.eq_def, hst, hpr]⟩
        | nil => exact ⟨.sDrainDone, rfl, by simp [step.eq_def, hst, hp, hpr]⟩
    | finished => rw [hi.mpr hst] at hnd; cases hnd

/-- **A lost connection is noticed.** In every reachable state in which the connection is
broken, a request is still in flight and Start has not returned, one of the connection's own
goroutines has an enabled step: no request sits in a queue of a dead connection with every
goroutine parked. -/
theorem progress_after_connection_loss (cap : Nat) (hcap : 0 < cap) (ls : List Label) (s : Cl)
    (h : run (init cap) ls = some s) (hc : s.connOk = false) (hfl : places s ≠ []) (hnd : s.done = false) :
    ∃ l, internal l = true ∧ (step s l).isSome = true := by
  have hi := good_reach h
  by_cases hq : s.quit = true
  · exact progress_after_quit hi.doneIff hq hnd
  · have hst : s.starter = .waitReader := Decidable.byContradiction fun hx => hq (hi.readerGone hx).2
    cases hr : s.reader with
    | decode => exact ⟨.rDecodeErr, rfl, by simp [step.eq_def, hr]⟩
    | exited => exact ⟨.sReaderGone, rfl, by simp [step.eq_def, hr, hst]⟩
    | «have» =>
      cases hpr : s.processing with
      | cons a rest => exact ⟨.rPair, rfl, by simp [step.eq_def, hr, hpr]⟩
      | nil =>
        cases hw : s.writer with
        | exited => exact absurd (hi.wq hw) hq
        | hold a => exact ⟨.wEncodeOk, rfl, by simp [step.eq_def, hw]⟩
        | handoff a => exact ⟨.wHandoff, rfl, by simp [step.eq_def, hw, hpr, hi.capEq, hcap]⟩
        | top =>
          cases hp : s.pending with
          | cons a rest => exact ⟨.wTake, rfl, by simp [step.eq_def, hw, hp]⟩
          | nil =>
            cases hl : s.locked with
            | nil =>
              cases hwt : s.waiting with
              | nil => simp [places, hwt, hl, hp, hpr, inWriter, hw] at hfl
              | cons a rest =>
                refine ⟨.turnTake a, rfl, ?_⟩
                by_cases hd : s.drained = true <;> simp [step.eq_def, hwt, hl, hd]
            | cons a rest => exact ⟨.sendEnq a, rfl, by simp [step.eq_def, hl, hp, hi.capEq, hcap]⟩

/-- **Shutdown completes under every schedule.** From any reachable state in which the quit latch
is closed, let the connection's own goroutines run in any order, with no further Send calls:
they cannot take more than `mu s` steps, and when none of them can move any more Start has
returned — so Stop returns and (by `all_answered_when_done`) every request has its one answer.
No fairness assumption is needed: every schedule is finite and ends there. -/
theorem shutdown_completes (cap : Nat) (pre : List Label) (s : Cl) (h : run (init cap) pre = some s)
    (hq : s.quit = true) (ls : List Label) (hint : ∀ l ∈ ls, internal l = true) (s' : Cl)
    (hrun : run s ls = some s') :
    ls.length ≤ mu s ∧ ((∀ l, internal l = true → step s' l = none) → s'.done = true) := by
  obtain ⟨hlen, _, _, hdone⟩ := isRun.completes (A := fun l => internal l = true) (C := fun s => s.quit = true)
    (Done := fun s => s.done = true) (μ := mu) inv_step
    (fun s l s' hl _ hq hs => ⟨(Step.of_step hs).quit_mono hq, internal_step_decreases s s' l hl hs⟩)
    (fun s hi hq hnd => progress_after_quit hi.doneIff hq (by simpa using hnd))
    hint (good_reach h).toInv hq hrun
  exact ⟨hlen, hdone⟩

/-- F-02a, the old code: the writer just returns on quit with a request in hand -/
def stepOldHandoffQuit (s : Cl) : Label → Option Cl
  | .wHandoffQuit =>
    match s.writer with
    | .handoff _ => if s.quit then some { s with writer := .exited, connOk := false } else none
    | _ => none
  | l => step s l

def runWith (f : Cl → Label → Option Cl) (s : Cl) : List Label → Option Cl
  | [] => some s
  | l :: ls => match f s l with | some s' => runWith f s' ls | none => none

/-- … then a history exists after which the connection is done and the request was never answered -/
theorem old_writer_drops_request :
    ∃ s, runWith stepOldHandoffQuit (init 4)
      [.sendBegin 0, .turnTake 0, .sendEnq 0, .wTake, .wEncodeOk, .stop, .wHandoffQuit, .rDecodeErr, .sReaderGone,
       .sWriterGone, .sLock, .sDrainDone] = some s ∧ s.done = true ∧ (ansIds s).count 0 = 0 :=
  ⟨_, rfl, rfl, by decide⟩

/-- F-02b, the old code: Send does not hold the read lock across its check and its enqueue, so the drain may start while
a sender is between the two -/
def stepOldNoLock (s : Cl) : Label → Option Cl
  | .sLock => if s.starter = .lockDrain then some { s with starter := .drain, drained := true } else none
  | l => step s l

/-- … then the request is enqueued after the drain and never answered -/
theorem old_send_races_drain :
    ∃ s, runWith stepOldNoLock (init 4)
      [.sendBegin 0, .turnTake 0, .stop, .rDecodeErr, .sReaderGone, .wQuitTop, .sWriterGone, .sLock, .sDrainDone, .sendEnq 0]
      = some s ∧ s.done = true ∧ (ansIds s).count 0 = 0 ∧ s.pending = [0] :=
  ⟨_, rfl, rfl, by decide, rfl⟩

/-- the same two histories under `step`: the request is answered; the drain cannot start while the sender holds the lock -/
example : ∃ s, run (init 4)
    [.sendBegin 0, .turnTake 0, .sendEnq 0, .wTake, .wEncodeOk, .stop, .wHandoffQuit, .rDecodeErr, .sReaderGone,
     .sWriterGone, .sLock, .sDrainDone] = some s ∧ s.done = true ∧ (ansIds s).count 0 = 1 :=
  ⟨_, rfl, rfl, by decide⟩
example : run (init 4)
    [.sendBegin 0, .turnTake 0, .stop, .rDecodeErr, .sReaderGone, .wQuitTop, .sWriterGone, .sLock] = none := rfl

/-- while children are outstanding the downstream request is not answered; when the last of
its `n ≥ 1` children completes (each exactly once, by the theorems above) it is answered
exactly once -/
theorem split_answered_exactly_once (n k : Nat) (hn : 0 < n) (hk : k ≤ n) :
    (childrenDone { wait := n } k).rawAnswered = (if k = n then 1 else 0) ∧
    (childrenDone { wait := n } k).wait = n - k := by
  induction k with
  | zero => exact ⟨(if_neg (Nat.ne_of_lt hn)).symm, rfl⟩
  | succ k ih =>
    obtain ⟨hr, hw⟩ := ih (Nat.le_of_succ_le hk)
    rw [if_neg (Nat.ne_of_lt hk)] at hr
    rw [childrenDone_succ]
    simp only [childDone, hr, hw, Nat.sub_sub, and_true]
    by_cases h : k + 1 = n
    · rw [if_pos h, if_pos (Nat.sub_eq_zero_of_le (Nat.le_of_eq h.symm))]
    · rw [if_neg h, if_neg (Nat.sub_ne_zero_of_lt (Nat.lt_of_le_of_ne hk h))]

/-- the theorem stops at `k = n`: past the last completion model and code part ways (`Nat` subtraction saturates, so the
model answers again at every further completion, while the code's counter goes negative); a child completing twice
before the others is what answers a request too early, and the exactly-once property of the children is what rules
this out -/
example : (childrenDone { wait := 2 } 2).rawAnswered = 1 := by decide

/-- (since 9cd2b0b) a request resent by another connection's read loop carries that connection's quit as `abort`: its Send may give up
while it waits for room — it is then answered with an error, exactly once, like a Send that sees this connection's own quit.  The
theorems above start from `init cap`, where no request is abortable; `Client.good_reach` holds from every start state of this form. -/
example : ∃ s, run { cap := 0, abortable := [7] } [.sendBegin 7, .turnTake 7, .sendAbort 7] = some s ∧ s.answered = [(7, .error)] ∧ s.locked = [] :=
  ⟨_, rfl, rfl, rfl⟩

/-- **Nothing is left in the write buffer of an idle writer.** After every interleaving of
senders, writer, reader, filter rejections, Stop and connection loss: whenever the writer is
back at the top of its loop (or about to hand over) with no request pending, everything it
encoded has been flushed to the backend — so a request accepted for a healthy connection does
not wait for some later request to push it out (F-02f). -/
theorem nothing_left_in_the_write_buffer (cap : Nat) (ls : List Label) (s : Cl) (h : run (init cap) ls = some s)
    (ht : s.writer = .top) (hp : s.pending = []) : s.unflushed = [] :=
  (good_reach h).wb (Or.inl ht) hp

/-- F-02f, the behaviour before the repair: request 0 is encoded while request 1 is pending (so it
is not flushed), request 1 is then answered by a filter (a command banned under compression), and
the writer goes back to sleep with request 0 still in its buffer: the backend never sees it. -/
theorem old_filter_stop_leaves_a_request_unflushed :
    ∃ s s', run (init 4) [.sendBegin 0, .turnTake 0, .sendEnq 0, .sendBegin 1, .turnTake 1, .sendEnq 1, .wTake, .wEncodeOk, .wHandoff, .wTake] = some s ∧
      oldFilterStop s = some s' ∧ s'.writer = .top ∧ s'.pending = [] ∧ s'.unflushed = [0] ∧ s'.processing = [0] := by
  refine ⟨_, _, rfl, rfl, ?_⟩
  decide

/-- **The code the model was written against.** The statements of the modelled functions,
regenerated from the current source on every run, are the ones the model was written against;
any edit to one of them makes this obligation fail and starts a search for a failing input. -/
theorem code_matches_model :
    Gen.Client.send =
      ["if len(reqs) == 0 { return }",
      "c.groupOnce.Do(func() { c.groupSem = make(chan struct{}, 1) })",
      "select { case c.groupSem <- struct{}{}: case <-c.quit: for _, req := range reqs { req.SetResponse(newError(backendExited)) } return case <-reqs[0].abort: for _, req := range reqs { req.SetResponse(newError(backendExited)) } return }",
      "defer func() { <-c.groupSem }()",
      "for _, req := range reqs { c.send(req) }"] ∧
    Gen.Client.sendOne =
      ["c.sendMu.RLock()",
      "if c.drained { c.sendMu.RUnlock() req.SetResponse(newError(backendExited)) return }",
      "verifPause(\"client.send.checked\", c)",
      "select { case <-c.quit: c.sendMu.RUnlock() req.SetResponse(newError(backendExited)) case <-req.abort: c.sendMu.RUnlock() req.SetResponse(newError(backendExited)) case c.pendingReqs <- req: c.sendMu.RUnlock() }"] ∧
    Gen.Client.start =
      ["writeDone := make(chan struct{})",
      "go func() { c.loopWrite() c.conn.Close() c.quitOnce.Do(func() { close(c.quit) }) close(writeDone) }()",
      "c.loopRead()",
      "c.conn.Close()",
      "c.quitOnce.Do(func() { close(c.quit) })",
      "<-writeDone",
      "c.sendMu.Lock()",
      "c.drained = true",
      "c.sendMu.Unlock()",
      "verifPause(\"client.start.drain\", c)",
      "c.drainRequests()",
      "close(c.done)"] ∧
    Gen.Client.stop =
      ["c.quitOnce.Do(func() { close(c.quit) })",
      "c.conn.Close()",
      "<-c.done",
      "c.filter.Reset()"] ∧
    Gen.Client.loopWrite =
      ["var ( req *simpleRequest err error )",
      "for { select { case <-c.quit: return case req = <-c.pendingReqs: } verifPause(\"client.write.taken\", c) switch c.filter.Do(req) { case Continue: case Stop: if len(c.pendingReqs) == 0 { if err = c.enc.Flush(); err != nil { c.logger.Warnf(\"loop write exit: %v\", err) return } } continue } err = c.enc.Encode(req.Body()) if err != nil { goto FAIL } if len(c.pendingReqs) == 0 { if err = c.enc.Flush(); err != nil { goto FAIL } } verifPause(\"client.write.handoff\", c) select { case <-c.quit: req.SetResponse(newError(backendExited)) return case c.processingReqs <- req: } }",
      "FAIL: req.SetResponse(newError(err.Error()))",
      "c.logger.Warnf(\"loop write exit: %v\", err)"] ∧
    Gen.Client.loopRead =
      ["for { resp, err := c.dec.Decode() if err != nil { if err != io.EOF && !strings.Contains(err.Error(), \"use of closed network connection\") { c.logger.Warnf(\"loop read exit: %v\", err) } return } verifPause(\"client.read.pair\", c) var req *simpleRequest select { case req = <-c.processingReqs: case <-c.quit: return } c.handleResp(req, resp) }"] ∧
    Gen.Client.drainRequests =
      ["for { select { case req := <-c.pendingReqs: req.SetResponse(newError(backendExited)) case req := <-c.processingReqs: req.SetResponse(newError(backendExited)) default: return } }"] ∧
    Gen.Client.isValid =
      ["b := r.body",
      "if b.Type != Array || len(b.Array) == 0 { return }",
      "for _, v := range b.Array { if v.Type != BulkString || v.Text == nil { return } }",
      "return true"] ∧
    Gen.Client.rawSetResponse =
      ["r.finishedAt = time.Now()",
      "r.resp = v",
      "for i := len(r.hooks) - 1; i >= 0; i-- { hook := r.hooks[i] hook(r) }",
      "close(r.done)"] ∧
    Gen.Client.simpleSetResponse =
      ["r.finishedAt = time.Now()",
      "r.resp = resp",
      "for i := len(r.hooks) - 1; i >= 0; i-- { hook := r.hooks[i] hook(r) }",
      "close(r.done)"] ∧
    Gen.Client.msetChildDone =
      ["wait := r.childWait.Dec()",
      "if wait == 0 { r.setResponse() }"] ∧
    Gen.Client.mgetChildDone =
      ["wait := r.childWait.Dec()",
      "if wait == 0 { r.setResponse() }"] ∧
    Gen.Client.sumChildDone =
      ["wait := r.childWait.Dec()",
      "if wait == 0 { r.setResponse() }"] := by
  refine ⟨rfl, rfl, rfl, rfl, rfl, rfl, rfl, rfl, rfl, rfl, rfl, rfl, rfl⟩

end SamVerif.Props.C02

#print axioms SamVerif.Props.C02.answered_at_most_once
#print axioms SamVerif.Props.C02.all_answered_when_done
#print axioms SamVerif.Props.C02.send_after_done_accepted
#print axioms SamVerif.Props.C02.waiting_send_after_done_answered
#print axioms SamVerif.Props.C02.internal_step_decreases
#print axioms SamVerif.Props.C02.progress_after_quit
#print axioms SamVerif.Props.C02.progress_after_connection_loss
#print axioms SamVerif.Props.C02.split_answered_exactly_once
#print axioms SamVerif.Props.C02.old_writer_drops_request
#print axioms SamVerif.Props.C02.old_send_races_drain
#print axioms SamVerif.Props.C02.code_matches_model
#print axioms SamVerif.Props.C02.shutdown_completes
#print axioms SamVerif.Props.C02.nothing_left_in_the_write_buffer
#print axioms SamVerif.Props.C02.old_filter_stop_leaves_a_request_unflushed
