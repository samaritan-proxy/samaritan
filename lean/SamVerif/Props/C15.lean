/-
C15 — host set and health checking keep a consistent view of usable hosts.

`HostSet.*` models host/host.go (as repaired by a910fb8) with object identity, and the
monitor's rise/fall counting; tied to the Go code by the differential run on the real
host.Set (public API) and the real Monitor with a scripted checker.
-/
import SamVerif.Proofs.HostSetConc
import SamVerif.Gen.HostSet
namespace SamVerif.Props.C15
open SamVerif.HostSet SamVerif.Proofs.HostSet

/-- **The usable hosts are exactly the members currently marked healthy in the preferred
tier**: after every sequence of additions, removals, replacements and health marks (for any
objects, members or not, fresh or re-used, same address under another type, duplicates in one
call), what `Healthy()` returns equals the specification computed from membership, type and
health flag alone. -/
theorem usable_correct (attr : Nat → Nat × Bool) (ops : List Op)
    (hw : ∀ op ∈ ops, ∀ o ∈ objsOf op, WF attr o) :
    healthy (run init ops) = usableSpec (run init ops) :=
  healthy_eq_spec (good_run ops hw)

theorem mem_insertByAddr (p y : Nat × Nat) (l : List (Nat × Nat)) (hy : y ∈ insertByAddr p l) : y = p ∨ y ∈ l := by
  fun_induction insertByAddr p l with
  | case1 => exact .inl (List.mem_singleton.mp hy)
  | case2 x xs _ ih =>
    rcases List.mem_cons.mp hy with hy | hy
    · exact .inr (hy ▸ List.mem_cons_self)
    · exact (ih hy).imp_right (List.mem_cons_of_mem _)
  | case3 => exact .inr hy
  | case4 => exact List.mem_cons.mp hy

theorem insertByAddr_sorted (p : Nat × Nat) (l : List (Nat × Nat))
    (hl : l.Pairwise (fun x y => x.1 < y.1)) : (insertByAddr p l).Pairwise (fun x y => x.1 < y.1) := by
  fun_induction insertByAddr p l with
  | case1 => exact List.pairwise_singleton ..
  | case2 x xs hlt ih =>
    rw [List.pairwise_cons] at hl ⊢
    exact ⟨fun y hy => (mem_insertByAddr p y xs hy).elim (· ▸ hlt) (hl.1 y), ih hl.2⟩
  | case3 => exact hl
  | case4 x xs h1 h2 =>
    have hpx : p.1 < x.1 := Nat.lt_of_le_of_ne (Nat.le_of_not_lt h1) (Ne.symm h2)
    exact List.pairwise_cons.mpr ⟨fun y hy => (List.mem_cons.mp hy).elim (· ▸ hpx)
      fun hy => Nat.lt_trans hpx ((List.pairwise_cons.mp hl).1 y hy), hl⟩

/-- **Sorted by address, no duplicates**: the usable list is strictly ascending in address. -/
theorem usable_sorted (s : State) : (usableSpec s).Pairwise (fun x y => x.1 < y.1) := by
  unfold usableSpec
  extract_lets members
  split <;> exact List.foldrRecOn _ insertByAddr .nil fun l hl p _ => insertByAddr_sorted p l hl

theorem mem_foldr_insertByAddr {y : Nat × Nat} (l : List (Nat × Nat)) : y ∈ l.foldr insertByAddr [] → y ∈ l :=
  List.foldrRecOn l insertByAddr (motive := fun r => y ∈ r → y ∈ l) (fun h => (List.not_mem_nil h).elim)
    fun r ih p hp hy => (mem_insertByAddr p y r hy).elim (· ▸ hp) ih

theorem mem_entries (s : State) (m : Nat → Option Nat) (y : Nat × Nat) (h : y ∈ entries s m) : m y.1 = some y.2 := by
  obtain ⟨a, _, ha⟩ := List.mem_filterMap.mp (mem_foldr_insertByAddr _ h)
  obtain ⟨i, hi, rfl⟩ := Option.map_eq_some_iff.mp ha
  exact hi

theorem mem_healthy {attr : Nat → Nat × Bool} {g : Nat → Bool} {s : State} (h : Good attr g s) {y : Nat × Nat}
    (hy : y ∈ healthy s) : s.all y.1 = some y.2 ∧ g y.2 = true := by
  obtain ⟨b, hb⟩ : ∃ b, tier s b y.1 = some y.2 := by
    unfold healthy at hy
    extract_lets m at hy
    split at hy
    · exact ⟨false, mem_entries _ _ y hy⟩
    · exact ⟨true, mem_entries _ _ y hy⟩
  rw [h.tier] at hb
  unfold keep at hb
  split at hb
  · next ha => split at hb <;> cases hb; exact ⟨ha, (‹_ ∧ _›).1⟩
  · cases hb

/-- number of most recent outcomes equal to `v` (history newest first) -/
def trail (v : Bool) : List Bool → Nat
  | [] => 0
  | x :: xs => if x = v then trail v xs + 1 else 0

/-- each count is at most the number of most recent outcomes of its kind (`hist` newest first) -/
def Counts (h : Health) (hist : List Bool) : Prop := h.fail ≤ trail false hist ∧ h.succ ≤ trail true hist

theorem Counts.next {h : Health} {hist : List Bool} (hc : Counts h hist) (rise fall : Nat) (o : Bool) :
    Counts (check rise fall h o) (o :: hist) := by
  fun_cases check rise fall h o with
  | case2 ho => exact ho ▸ ⟨Nat.zero_le _, Nat.succ_le_succ hc.2⟩  -- a success below the threshold: counted
  | case4 ho => exact eq_false_of_ne_true ho ▸ ⟨Nat.succ_le_succ hc.1, Nat.zero_le _⟩  -- a failure below it: counted
  | _ => exact ⟨Nat.zero_le _, Nat.zero_le _⟩  -- a threshold is crossed: both counts start again

-- `reverseAux` pushes the outcomes onto the history one at a time, as `runChecks` consumes them; `outs.reverse` is `outs.reverseAux []`
theorem Counts.run (rise fall : Nat) : ∀ (outs : List Bool) {h : Health} {hist : List Bool}, Counts h hist →
    Counts (runChecks rise fall h outs) (outs.reverseAux hist) := by
  intro outs
  induction outs with
  | nil => exact id
  | cons o os ih => exact fun hc => ih (hc.next rise fall o)

theorem flip_trail (rise fall : Nat) {h : Health} {hist : List Bool} (o : Bool) (hc : Counts h hist) (v : Bool)
    (hh : h.healthy = !v) : (check rise fall h o).healthy = v → (if v then rise else fall) + 1 ≤ trail v (o :: hist) := by
  fun_cases check rise fall h o with
  -- cases 1 and 3: the threshold is crossed and the host marked
  | case1 ho _ hlt => rintro ⟨⟩; subst ho; exact Nat.succ_le_succ (Nat.le_trans (Nat.le_of_lt_succ hlt) hc.2)
  | case3 ho _ hlt => rintro ⟨⟩; cases eq_false_of_ne_true ho; exact Nat.succ_le_succ (Nat.le_trans (Nat.le_of_lt_succ hlt) hc.1)
  | _ => exact fun hv => ((Bool.eq_not_self v).mp (hv.symm.trans hh)).elim    -- no mark: the flag stays

/-- **Hysteresis.** Whatever the earlier check outcomes were: if a check result flips the
host's health, then at least `threshold + 1` most recent outcomes (this one included) were all
contrary to the previous state — any opposite result in between restarted the count — and this
holds for falling and for rising alike. -/
theorem flip_needs_run (rise fall : Nat) (outs : List Bool) (o : Bool) :
    ((runChecks rise fall ⟨true, 0, 0⟩ outs).healthy = true →
      (check rise fall (runChecks rise fall ⟨true, 0, 0⟩ outs) o).healthy = false →
      fall + 1 ≤ trail false (o :: outs.reverse)) ∧
    ((runChecks rise fall ⟨true, 0, 0⟩ outs).healthy = false →
      (check rise fall (runChecks rise fall ⟨true, 0, 0⟩ outs) o).healthy = true →
      rise + 1 ≤ trail true (o :: outs.reverse)) := by
  have hj : Counts _ outs.reverse := Counts.run rise fall outs (h := ⟨true, 0, 0⟩) ⟨Nat.le_refl 0, Nat.le_refl 0⟩
  exact ⟨flip_trail rise fall o hj false, flip_trail rise fall o hj true⟩

-- the controller-style history of F-15c
def o1 : Obj := ⟨1, 7, true⟩
def o2 : Obj := ⟨2, 7, true⟩
def o3 : Obj := ⟨3, 7, true⟩
example : healthy (run init [.add [o1], .remove [o2], .add [o3], .mark o1 false]) = [(7, 3)] := by decide
example : runChecks 2 2 ⟨true, 0, 0⟩ [false, false, true, false, false, false] = ⟨false, 0, 0⟩ := by decide

/-- the invariant behind "removal closes established connections": an object that was stored
and is not stored any more has its removal latch closed, or it is still the object stored under
its address.  `Latched s0 s`: every object stored in `s0` is stored at the same address in `s` or latched in `s`. -/
def Latched (s0 s : State) : Prop := ∀ a old, s0.all a = some old → s.all a = some old ∨ s.removed old = true

theorem latched_refl (s : State) : Latched s s := fun _ _ h => Or.inl h

/-- from `s` to `s'` nothing leaves the set unlatched and no latch opens again -/
def Keeps (s s' : State) : Prop := Latched s s' ∧ ∀ i, s.removed i = true → s'.removed i = true

theorem Keeps.refl (s : State) : Keeps s s := ⟨latched_refl s, fun _ h => h⟩

theorem Keeps.trans {s0 s s' : State} (h : Keeps s0 s) (h' : Keeps s s') : Keeps s0 s' :=
  ⟨fun a old h0 => (h.1 a old h0).elim (h'.1 a old) fun hr => .inr (h'.2 old hr), fun i hi => h'.2 i (h.2 i hi)⟩

theorem keeps_upd {s s' : State} {a : Nat} {v : Option Nat} (hall : s'.all = upd s.all a v)
    (hold : ∀ old, s.all a = some old → v = some old ∨ s'.removed old = true)
    (hmono : ∀ i, s.removed i = true → s'.removed i = true) : Keeps s s' := by
  refine ⟨fun x old h => ?_, hmono⟩
  rw [hall]
  by_cases hx : x = a
  · subst hx; exact (hold old h).imp_left (upd_same ..).trans
  · exact .inl ((upd_ne _ _ hx).trans h)

theorem keeps_addOne (s : State) (o : Obj) : Keeps s (addOne s o) := by
  unfold addOne; split
  · exact .refl s
  · have hr : (addOneRepl s o).removed = match storedTier s o.addr (some o.id), s.all o.addr with
        | some _, some old => upd s.removed old true
        | _, _ => s.removed := rfl
    refine keeps_upd rfl (fun old h => ?_) fun i hi => ?_
    · by_cases hid : old = o.id
      · exact .inl (hid ▸ rfl)
      · -- another object is stored: it is retired
        have ht : storedTier s o.addr (some o.id) = some (typOf s old) := by simp [storedTier, h, hid]
        rw [hr, ht, h]; exact .inr (upd_same ..)
    · rw [hr]; split
      · exact upd_mono hi
      · exact hi

theorem keeps_removeOne (s : State) (o : Obj) : Keeps s (removeOne s o) := by
  refine keeps_upd rfl (fun old h => .inr (upd_mono ?_)) fun i hi => upd_mono ?_
  · rw [h]; exact upd_same ..
  · cases s.all o.addr with
    | none => exact hi
    | some st => exact upd_mono hi

/-- **A removed host is never reported**: right after `Remove`, nothing is stored under the
address, whatever object the caller passed (the stored one or an equal copy) … -/
theorem removed_not_member (s : State) (o : Obj) : (removeOne s o).all o.addr = none := upd_same ..

/-- … and the removal latch of the object that *was stored* is closed (so that connections
established to it are closed; F-06a). -/
theorem remove_latches_stored (s : State) (o : Obj) (st : Nat) (h : s.all o.addr = some st) :
    (removeOne s o).removed st = true :=
  ((keeps_removeOne s o).1 _ _ h).resolve_left fun e => nomatch (removed_not_member s o).symm.trans e

theorem keeps_step {s0 s : State} (h : Keeps s0 s) (op : Op) : Keeps s0 (step s op) := by
  obtain ⟨hadd, hrem, hrep⟩ := setOps_preserve (P := Keeps s0) (Q := fun _ => True) (fun s o h _ => h.trans (keeps_addOne s o))
    (fun s o h _ => h.trans (keeps_removeOne s o)) (fun _ _ _ _ => trivial) h (os := objsOf op) (fun _ _ => trivial)
  cases op with
  | add os => exact hadd
  | remove os => exact hrem
  | replaceAll os => exact hrep
  | mark o p =>
    -- a mark touches neither membership nor latches
    refine h.trans ?_
    show Keeps s (mark s o p).1
    rw [mark_split]; split <;> exact .refl _

/-- **Whatever leaves the set is latched, after every history.**  For every sequence of additions
(also of hosts that are already members, as equal or as differently typed objects), removals,
replacements and health marks: an object that was stored at the start is still the stored object of
its address, or its removal latch is closed — so the connections established through it are told. -/
theorem retired_objects_are_latched : ∀ (ops : List Op) (s0 s : State), Latched s0 s →
    (∀ i, s0.removed i = true → s.removed i = true) →
    Latched s0 (run s ops) ∧ (∀ i, s0.removed i = true → (run s ops).removed i = true) :=
  fun ops s0 _ h hm => List.foldlRecOn ops step (motive := Keeps s0) ⟨h, hm⟩ fun _ hs op _ => keeps_step hs op

/-- F-06b as repaired: a member re-added as a fresh equal object stays the stored one (the copy is only
seen), and the later removal through the copy latches it; before, the copy replaced it unlatched and
the removal latched the copy only -/
example :
    let o1 : Obj := ⟨1, 7, true⟩
    let o2 : Obj := ⟨2, 7, true⟩
    let s := run init [.add [o1], .add [o2], .remove [o2]]
    s.all 7 = none ∧ s.removed 1 = true := by
  refine ⟨by decide, by decide⟩

/-- **Concurrent marks refine atomic ones.** `MarkHostHealthy`/`MarkHostUnhealthy` flip the flag
outside the lock and update the maps under it; additions, removals and replacements (which hold
the lock throughout) may run in between, in any number and order, for any objects.  After every
such interleaving (at most one mark in flight per host object, as the monitor guarantees) there
is a history of *atomic* operations whose state has exactly the same members, maps, latches and
registry, and the same flags except for the marks still in flight. -/
theorem concurrent_refines_atomic (attr : Nat → Nat × Bool) (cops : List COp) (c : CS)
    (hw : ∀ op ∈ cops, ∀ o ∈ op.objs, WF attr o) (h : crun { st := init } cops = some c) :
    ∃ aops : List Op, (∀ op ∈ aops, ∀ o ∈ objsOf op, WF attr o) ∧
      c.st = withFlag (run init aops) c.st.flag ∧
      ∀ i, c.pend i = false → (run init aops).flag i = c.st.flag i := by
  obtain ⟨_, hg⟩ := ghost_reach hw h
  obtain ⟨aops, hW, rfl⟩ := hg.reach
  exact ⟨aops, hW, hg.eq, hg.agree⟩

/-- **With no mark in flight the usable hosts are exactly the healthy members of the preferred
tier** — after any concurrent interleaving. -/
theorem concurrent_usable_correct (attr : Nat → Nat × Bool) (cops : List COp) (c : CS)
    (hw : ∀ op ∈ cops, ∀ o ∈ op.objs, WF attr o) (h : crun { st := init } cops = some c)
    (hrest : ∀ i, c.pend i = false) : healthy c.st = usableSpec c.st := by
  obtain ⟨a, hg⟩ := ghost_reach hw h
  exact healthy_eq_spec ((funext fun i => hg.agree i (hrest i)) ▸ hg.good)

/-- **Even with marks in flight, only members are reported** — whatever `Healthy()` returns at any
point of any interleaving is an object currently stored under that address (so a removed host is
never reported or selected), and it is flagged healthy unless a mark on it is in flight. -/
theorem concurrent_reports_members_only (attr : Nat → Nat × Bool) (cops : List COp) (c : CS)
    (hw : ∀ op ∈ cops, ∀ o ∈ op.objs, WF attr o) (h : crun { st := init } cops = some c)
    (y : Nat × Nat) (hy : y ∈ healthy c.st) :
    c.st.all y.1 = some y.2 ∧ (c.pend y.2 = false → c.st.flag y.2 = true) := by
  obtain ⟨a, hg⟩ := ghost_reach hw h
  have := mem_healthy hg.good hy
  exact ⟨this.1, fun hp => (hg.agree _ hp).symm.trans this.2⟩

/-- the premises can be met by an interleaving that matters: host 1 (address 7) is marked unhealthy; between the two halves of
the mark it is removed and re-added as a fresh object -/
example : ∃ c, crun { st := init }
    [.add [⟨1, 7, true⟩], .cas ⟨1, 7, true⟩ false, .remove [⟨1, 7, true⟩], .add [⟨2, 7, true⟩], .apply ⟨1, 7, true⟩] = some c
    ∧ healthy c.st = [(7, 2)] := ⟨_, rfl, by decide⟩

/-- **Why one mark per object at a time matters** (the monitor checks every host once per round
and waits for the round to finish): were two marks of the same object allowed to overlap — the
CAS of "unhealthy", the CAS of "healthy", then the locked halves in the opposite order — the object would
end flagged healthy, a member, and missing from the usable hosts. -/
theorem overlapping_marks_would_lose_a_host :
    let o : Obj := ⟨1, 7, true⟩
    let s0 := add init [o]
    let s1 := markCas s0 o false
    let s2 := markCas s1 o true
    let s3 := (markApply s2 o true).1
    let s4 := (markApply s3 o false).1
    s4.flag 1 = true ∧ s4.all 7 = some 1 ∧ healthy s4 = [] ∧ usableSpec s4 = [(7, 1)] := by
  decide

/-- **The code the model was written against.** The statements of the modelled functions,
regenerated from the current source on every run, are the ones the model was written against;
any edit to one of them makes this obligation fail and starts a search for a failing input. -/
theorem code_matches_model :
    Gen.HostSet.setAdd =
      ["if len(hosts) == 0 { return }",
      "for _, host := range hosts { if old, ok := set.all[host.Addr]; ok && old != host { if IsEqual(old, host) { continue } set.dropHealthy(old) old.markRemoved() } set.all[host.Addr] = host if host.IsHealthy() { set.putHealthy(host) } }",
      "set.buildHealthyCache()"] ∧
    Gen.HostSet.setRemove =
      ["if len(hosts) == 0 { return }",
      "for _, host := range hosts { if stored, ok := set.all[host.Addr]; ok { delete(set.all, host.Addr) stored.markRemoved() set.dropHealthy(stored) } host.markRemoved() }",
      "set.removeFromHealthy(hosts...)"] ∧
    Gen.HostSet.dropHealthy =
      ["switch h.Type { case TypeMain: delete(set.healthyMain, h.Addr) case TypeBackup: delete(set.healthyBackup, h.Addr) }"] ∧
    Gen.HostSet.addToHealthy =
      ["if len(host) == 0 { return }",
      "for _, h := range host { if h == nil { continue } switch h.Type { case TypeMain: set.healthyMain[h.Addr] = h case TypeBackup: set.healthyBackup[h.Addr] = h default: continue } }",
      "set.buildHealthyCache()"] ∧
    Gen.HostSet.putHealthy =
      ["switch h.Type { case TypeMain: set.healthyMain[h.Addr] = h case TypeBackup: set.healthyBackup[h.Addr] = h }"] ∧
    Gen.HostSet.removeFromHealthy =
      ["if len(host) == 0 { return }",
      "for _, h := range host { if h == nil { continue } switch h.Type { case TypeMain: delete(set.healthyMain, h.Addr) case TypeBackup: delete(set.healthyBackup, h.Addr) default: continue } }",
      "set.buildHealthyCache()"] ∧
    Gen.HostSet.buildHealthyCache =
      ["hostMap := set.healthy()",
      "keys := make([]string, 0, len(hostMap))",
      "for k := range hostMap { keys = append(keys, k) }",
      "sort.Strings(keys)",
      "hosts := make([]*Host, 0, len(hostMap))",
      "for _, k := range keys { hosts = append(hosts, hostMap[k]) }",
      "set.healthyCache.Store(hosts)"] ∧
    Gen.HostSet.markHealthy =
      ["if !host.setHealthy() { return false }",
      "verifPause(\"set.mark.flagged\", host)",
      "set.Lock()",
      "defer set.Unlock()",
      "if stored, ok := set.all[host.Addr]; !ok || stored != host { return false }",
      "set.addToHealthy(host)",
      "return true"] ∧
    Gen.HostSet.markUnhealthy =
      ["if !host.setUnhealthy() { return false }",
      "verifPause(\"set.mark.flagged\", host)",
      "set.Lock()",
      "defer set.Unlock()",
      "if stored, ok := set.all[host.Addr]; !ok || stored != host { return false }",
      "set.removeFromHealthy(host)",
      "return true"] ∧
    Gen.HostSet.healthyTier =
      ["healthyHosts := set.healthyMain",
      "if len(healthyHosts) == 0 { healthyHosts = set.healthyBackup }",
      "return healthyHosts"] ∧
    Gen.HostSet.healthyList =
      ["hosts, _ := set.healthyCache.Load().([]*Host)",
      "return hosts"] ∧
    Gen.HostSet.replaceAll =
      ["set.Lock()",
      "defer set.Unlock()",
      "for addr, host := range set.all { delete(set.all, addr) host.markRemoved() set.dropHealthy(host) }",
      "set.add(hosts...)",
      "set.buildHealthyCache()"] ∧
    Gen.HostSet.setHealthyFlag =
      ["stats.successfulCount.Store(0)",
      "stats.failedCount.Store(0)",
      "return stats.isHealthy.CAS(false, true)"] ∧
    Gen.HostSet.setUnhealthyFlag =
      ["stats.successfulCount.Store(0)",
      "stats.failedCount.Store(0)",
      "return stats.isHealthy.CAS(true, false)"] ∧
    Gen.HostSet.incFailed =
      ["stats.successfulCount.Store(0)",
      "return stats.failedCount.Inc()"] ∧
    Gen.HostSet.incSuccessful =
      ["stats.failedCount.Store(0)",
      "return stats.successfulCount.Inc()"] ∧
    Gen.HostSet.markRemoved =
      ["h.removeOnce.Do(func() { close(h.removeCh) })"] ∧
    Gen.HostSet.checkHostAndUpdateStatus =
      ["if m.checkHost(host) { if host.IncSuccessfulCount() > uint64(m.config.RiseThreshold) { if m.hostSet.MarkHostHealthy(host) { m.logger.Infof(\"Host %s is healthy\", host) } } return }",
      "if host.IncFailedCount() > uint64(m.config.FallThreshold) { if m.hostSet.MarkHostUnhealthy(host) { m.logger.Warnf(\"Host %s is unhealthy\", host) } }"] ∧
    Gen.HostSet.checkHosts =
      ["hosts := m.hostSet.All()",
      "var ( concurrency = MinInt(len(hosts), MaximumConcurrency) hostCh = make(chan *hostpkg.Host, concurrency) wg sync.WaitGroup )",
      "go func() { for _, host := range hosts { hostCh <- host } close(hostCh) }()",
      "for i := 0; i < concurrency; i++ { wg.Add(1) go func() { for host := range hostCh { m.checkHostAndUpdateStatus(host) } wg.Done() }() }",
      "wg.Wait()"] := by
  refine ⟨rfl, rfl, rfl, rfl, rfl, rfl, rfl, rfl, rfl, rfl, rfl, rfl, rfl, rfl, rfl, rfl, rfl, rfl, rfl⟩

end SamVerif.Props.C15

#print axioms SamVerif.Props.C15.usable_correct
#print axioms SamVerif.Props.C15.usable_sorted
#print axioms SamVerif.Props.C15.retired_objects_are_latched
#print axioms SamVerif.Props.C15.removed_not_member
#print axioms SamVerif.Props.C15.remove_latches_stored
#print axioms SamVerif.Props.C15.flip_needs_run
#print axioms SamVerif.Props.C15.concurrent_refines_atomic
#print axioms SamVerif.Props.C15.concurrent_usable_correct
#print axioms SamVerif.Props.C15.concurrent_reports_members_only
#print axioms SamVerif.Props.C15.overlapping_marks_would_lose_a_host
#print axioms SamVerif.Props.C15.code_matches_model
