/-
C04 — slot migration and failover are invisible to clients.

`Upstream.follow` is the proxy's handling of MOVED and ASK (`client.handleResp` →
`upstream.handleRedirection`) against `Upstream.nodeAnswer`, what a Redis Cluster node answers
for a slot that is stable, migrating or importing.  Function statements are regenerated from the
source and compared; behaviour is tied by the differential run of a real Redis processor over
real sockets against a scripted cluster whose slots are migrated key by key, handed over at
once, and whose masters are replaced by replicas, with the single-server semantics as the
reference.  A failed connect triggers a refresh since F-04b was repaired.
-/
import SamVerif.Proofs.Upstream
import SamVerif.Gen.Upstream
import SamVerif.Proofs.ClusterRef
import SamVerif.Model.AskPair
namespace SamVerif.Props.C04
open SamVerif.Upstream

/-- `follow` under interference: `steals` says, for each ASK followed, whether other traffic on the
target's connection consumes the one-shot ASKING flag before the redirected command arrives. -/
def followAdv (t : Truth) (present : Bool) : Nat → Nat → Bool → List Bool → Option (Nat × Nat)
  | 0, _, _, _ => none
  | fuel + 1, node, asking, steals =>
    match nodeAnswer t node present asking with
    | .serve => some (node, 0)
    | .moved n => (followAdv t present fuel n false steals).map fun r => (r.1, r.2 + 1)
    | .ask n =>
      match steals with
      | true :: rest => (followAdv t present fuel n false rest).map fun r => (r.1, r.2 + 1)
      | _ :: rest => (followAdv t present fuel n true rest).map fun r => (r.1, r.2 + 1)
      | [] => (followAdv t present fuel n true []).map fun r => (r.1, r.2 + 1)

def bump1 (r : Nat × Nat) : Nat × Nat := (r.1, r.2 + 1)

section
variable {t : Truth} {p : Bool} {node : Nat} {asking : Bool} (f : Nat) (st : List Bool)

theorem adv_serve (h : nodeAnswer t node p asking = .serve) :
    followAdv t p (f + 1) node asking st = some (node, 0) := by
  simp [followAdv, h]

theorem adv_moved {n : Nat} (h : nodeAnswer t node p asking = .moved n) :
    followAdv t p (f + 1) node asking st = (followAdv t p f n false st).map bump1 := by
  simp only [followAdv, h]; rfl

/-- ASK: the next node sees ASKING unless the flag is stolen -/
theorem adv_ask {n : Nat} (h : nodeAnswer t node p asking = .ask n) :
    followAdv t p (f + 1) node asking st = (followAdv t p f n (!st.headD false) st.tail).map bump1 := by
  rcases st with _ | ⟨_ | _, _⟩ <;> simp only [followAdv, h] <;> rfl
end

theorem followAdv_nil (t : Truth) (p : Bool) : ∀ f node a, followAdv t p f node a [] = follow t p f node a := by
  intro f
  induction f with
  | zero => intros; rfl
  | succ f ih => intro node a; cases h : nodeAnswer t node p a <;> simp [followAdv, follow, ih, h]

/-- From the owner: served at once if the key is there; else ASK to the target, where each theft
of the flag costs a round trip target → owner. -/
theorem from_owner (t : Truth) (p : Bool) (hdst : ∀ d, t.target = some d → d ≠ t.owner)
    (steals : List Bool) (a : Bool) (e : Nat) :
    ∃ r, followAdv t p (e + 2 * steals.length + 2) t.owner a steals = some (holder t p, r) ∧
      r ≤ 2 * steals.length + 1 := by
  have hown := nodeAnswer_owner t p a
  unfold holder
  cases ht : t.target with
  | none => exact ⟨0, adv_serve _ steals (by simp [hown, ht]), Nat.zero_le _⟩
  | some d =>
    cases p with
    | true => exact ⟨0, adv_serve _ steals (by simp [hown]), Nat.zero_le _⟩
    | false =>
      have hask : ∀ a, nodeAnswer t t.owner false a = .ask d := by simp [nodeAnswer_owner, ht]
      have hserve := nodeAnswer_asking t false ht (hdst d ht)
      have hback := nodeAnswer_other t false (hdst d ht)
      clear hown
      induction steals generalizing a with
      | nil => exact ⟨1, by simp [adv_ask _ _ (hask a), adv_serve _ _ hserve, bump1], Nat.le_add_left 1 _⟩
      | cons b rest ih =>
        cases b with
        | false => exact ⟨1, by simp [adv_ask _ _ (hask a), adv_serve _ _ hserve, bump1], Nat.le_add_left 1 _⟩
        | true =>
          obtain ⟨r, h1, h2⟩ := ih false
          refine ⟨r + 2, ?_, Nat.add_le_add_right h2 2⟩
          rw [List.length_cons, Nat.mul_succ, ← Nat.add_assoc]
          simp [adv_ask _ _ (hask a), adv_moved _ _ hback, h1, bump1]

/-- **The walk ends at the holder**, from any first node, under any interference, given fuel enough. -/
theorem reaches_holder (t : Truth) (p : Bool) (hdst : ∀ d, t.target = some d → d ≠ t.owner)
    (steals : List Bool) (first e : Nat) :
    ∃ r, followAdv t p (e + 2 * steals.length + 3) first false steals = some (holder t p, r) ∧
      r ≤ 2 * steals.length + 2 := by
  by_cases h : first = t.owner
  · obtain ⟨r, h1, h2⟩ := from_owner t p hdst steals false (e + 1)
    exact ⟨r, by rw [h, ← h1, Nat.add_right_comm e 1], Nat.le_succ_of_le h2⟩
  · obtain ⟨r, h1, h2⟩ := from_owner t p hdst steals false e
    exact ⟨r + 1, by rw [adv_moved _ _ (nodeAnswer_other t p h), h1]; rfl, Nat.succ_le_succ h2⟩

/-- **Interference only costs hops.** ASKING and the redirected command are two separate sends;
other traffic on the target's connection can consume the one-shot flag in between (`steals`: for
each ASK followed, whether that happens).  However often it happens, the command still ends at
the node that has to execute it and is executed there once; each theft costs two more
redirections.  A client never sees any of it. -/
theorem interference_only_costs_hops (t : Truth) (present : Bool)
    (hdst : ∀ d, t.target = some d → d ≠ t.owner) (steals : List Bool) (first : Nat) :
    ∃ r, followAdv t present (3 + 2 * steals.length) first false steals = some (holder t present, r) ∧
      r ≤ 2 + 2 * steals.length :=
  by simpa only [Nat.zero_add, Nat.add_comm] using reaches_holder t present hdst steals first 0

theorem follow_reaches_holder (t : Truth) (p : Bool) (hdst : ∀ d, t.target = some d → d ≠ t.owner)
    (first e : Nat) :
    ∃ r, follow t p (e + 3) first false = some (holder t p, r) ∧ r ≤ 2 := by
  rw [← followAdv_nil]
  exact reaches_holder t p hdst [] first e

/-- **Redirections end at the node that has to execute the command, within two hops, and the
client never sees them.** Whatever node the proxy's table names first — the owner, the migration
target, or any other node (a table that is stale in any way) — and whatever the migration state
of the slot, following MOVED and ASK as the proxy does reaches, after at most two redirections,
the node that holds the key: the owner, or the migration target when the key is not (or no
longer) on the owner.  The command is executed there and only there: the nodes passed on the way
answered with a redirection and executed nothing. -/
theorem redirections_end_at_the_holder (t : Truth) (present : Bool) (first : Nat)
    (hdst : ∀ d, t.target = some d → d ≠ t.owner) :
    ∃ r, follow t present 3 first false = some (holder t present, r) ∧ r ≤ 2 :=
  follow_reaches_holder t present hdst first 0

/-- with a loaded, current table nothing is redirected -/
theorem no_redirect_when_table_is_current (t : Truth) (hstable : t.target = none) :
    follow t true 3 t.owner false = some (t.owner, 0) := by
  simp [follow, nodeAnswer, hstable]

/-- every phase of a migration, as the property lists them -/
example : follow ⟨0, none⟩ true 3 0 false = some (0, 0) := rfl                 -- stable
example : follow ⟨0, some 1⟩ true 3 0 false = some (0, 0) := rfl               -- migrating, key still on the source
example : follow ⟨0, some 1⟩ false 3 0 false = some (1, 1) := rfl              -- migrating, key already moved (ASK)
example : follow ⟨1, none⟩ true 3 0 false = some (1, 1) := rfl                 -- finalised, table stale (MOVED)
example : follow ⟨0, some 1⟩ false 3 1 false = some (1, 2) := rfl              -- table already points at the target (MOVED, then ASK)
example : follow ⟨0, some 1⟩ false 3 2 false = some (1, 2) := rfl              -- table points at a third node

/-- **The reference used by the differential runs agrees with the theorem.** What
`Drive.Cluster.route` predicts for a keyed command in a calm cluster (every node reachable at the
address the proxy knows, no lagging views) is execution on the key's holder after at most two
redirections — the executable reference is `follow`, not a second opinion. -/
theorem reference_route_is_the_proven_walk (c : Drive.Cluster.Cl) (hc : Drive.Cluster.Calm c) (k : Drive.Cluster.Bytes) (present : Bool)
    (hdst : ∀ d, (Drive.Cluster.truthOf c (Drive.Cluster.slotOf k)).target = some d →
      d ≠ (Drive.Cluster.truthOf c (Drive.Cluster.slotOf k)).owner) :
    ∃ r, r ≤ 2 ∧ Drive.Cluster.route c k present =
      (some (holder (Drive.Cluster.truthOf c (Drive.Cluster.slotOf k)) (present && !c.movedKeys.contains k)), r, decide (r > 0)) := by
  -- `route` is `routeFrom` with fuel 8 = 5 + 3 from the node the table names, without ASKING, 0 hops so far, reached through the table
  obtain ⟨r, hf, hr⟩ := follow_reaches_holder _ (present && !c.movedKeys.contains k) hdst (c.table (Drive.Cluster.slotOf k)) 5
  exact ⟨r, hr, by simpa only [Drive.Cluster.route, Nat.zero_add] using Drive.Cluster.routeFrom_eq_follow c hc _ k present 8 _ false 0 true _ r hf⟩

/-- **The code the model was written against.** The statements of the modelled functions,
regenerated from the current source on every run, are the ones the model was written against;
any edit to one of them makes this obligation fail and starts a search for a failing input. -/
theorem code_matches_model :
    Gen.Upstream.getClient =
      ["c, ok := u.loadClients()[addr]",
      "if ok { return c, nil }",
      "v, loaded := u.createClientCalls.LoadOrStore(addr, &createClientCall{ done: make(chan struct{}), })",
      "call := v.(*createClientCall)",
      "if loaded { <-call.done return call.res, call.err }",
      "c, err := u.createClient(addr)",
      "call.res, call.err = c, err",
      "close(call.done)",
      "u.createClientCalls.Delete(addr)",
      "return c, err"] ∧
    Gen.Upstream.createClient =
      ["u.clientsMu.Lock()",
      "select { case <-u.quit: u.clientsMu.Unlock() return nil, errors.New(upstreamExited) default: }",
      "c, ok := u.loadClients()[addr]",
      "u.clientsMu.Unlock()",
      "if ok { return c, nil }",
      "conn, err := netutil.Dial(\"tcp\", addr, *u.cfg.ConnectTimeout)",
      "if err != nil { return nil, err }",
      "options := []clientOption{ withKeyCounter(u.hkc.AllocCounter(addr)), withRedirectionCb(u.handleRedirection), withClusterDownCb(u.handleClusterDown), }",
      "c, err = newClient(conn, u.cfg, u.logger, options...)",
      "if err != nil { conn.Close() return nil, err }",
      "u.clientsMu.Lock()",
      "defer u.clientsMu.Unlock()",
      "select { case <-u.quit: conn.Close() return nil, errors.New(upstreamExited) default: }",
      "verifPause(\"upstream.client.checked\", u)",
      "if existing, ok := u.loadClients()[addr]; ok { conn.Close() return existing, nil }",
      "go func() { c.Start() u.removeEndedClient(addr, c) }()",
      "u.addClientLocked(addr, c)",
      "return c, nil"] ∧
    Gen.Upstream.removeClient =
      ["u.clientsMu.Lock()",
      "defer u.clientsMu.Unlock()",
      "u.removeClientLocked(addr)"] ∧
    Gen.Upstream.makeRequestToHost =
      ["for _, req := range reqs { u.stats.RqTotal.Inc() req.RegisterHook(func(req *simpleRequest) { if req.Response().Type == Error { u.stats.RqFailureTotal.Inc() } else { u.stats.RqSuccessTotal.Inc() } u.stats.RqDurationMs.Record(uint64(req.Duration() / time.Millisecond)) }) }",
      "fail := func(msg string) { for _, req := range reqs { req.SetResponse(newError(msg)) } }",
      "select { case <-u.quit: fail(upstreamExited) return default: }",
      "verifPause(\"upstream.request.checked\", u)",
      "c, err := u.getClient(addr)",
      "if err != nil { u.triggerSlotsRefresh() fail(err.Error()) return }",
      "c.Send(reqs...)"] ∧
    Gen.Upstream.handleResp =
      ["if v.Type != Error { req.SetResponse(v) return }",
      "i := bytes.Index(v.Text, []byte(\" \"))",
      "var errPrefix []byte",
      "if i != -1 { errPrefix = v.Text[:i] }",
      "switch { case bytes.EqualFold(errPrefix, []byte(MOVED)), bytes.EqualFold(errPrefix, []byte(ASK)): if c.onRedirection != nil { req.abort = c.quit c.onRedirection(req, v) return } case bytes.EqualFold(errPrefix, []byte(CLUSTERDOWN)): if c.onClusterDown != nil { c.onClusterDown(req, v) return } }",
      "req.SetResponse(v)"] ∧
    Gen.Upstream.handleRedirection =
      ["err := strings.Split(string(resp.Text), \" \")",
      "if len(err) < 3 { req.SetResponse(resp) return }",
      "hostAddr := err[2]",
      "switch strings.ToLower(err[0]) { case MOVED: u.stats.Counter(\"moved\").Inc() u.MakeRequestToHost(hostAddr, req) case ASK: askingReq := newSimpleRequest(newArray( *newBulkString(ASKING), )) askingReq.abort = req.abort u.MakeRequestToHost(hostAddr, askingReq, req) default: req.SetResponse(resp) return }",
      "u.triggerSlotsRefresh()"] ∧
    Gen.Upstream.handleClusterDown =
      ["u.triggerSlotsRefresh()",
      "req.SetResponse(resp)"] := by
  refine ⟨rfl, rfl, rfl, rfl, rfl, rfl, rfl⟩

end SamVerif.Props.C04

namespace SamVerif.Props.C04a
open SamVerif.AskPair

/-- **A redirected command is served by the node it was redirected to, whatever else is sent to that node** (F-04d, since cf7dbc3):
for every sequence of sends on the shared connection — direct requests of any clients and redirected requests with their ASKING, in
any order — every command is served; none is answered MOVED because somebody else's command took its ASKING. -/
theorem every_command_served (sends : List Send) : ∀ r ∈ exec false (queue sends), r.2 = true := by
  generalize false = flag
  induction sends generalizing flag with
  | nil => exact fun _ h => nomatch h
  | cons s rest ih => cases s <;> exact List.forall_mem_cons.mpr ⟨rfl, ih false⟩

/-- every command sent is executed exactly once, in the order of the sends -/
theorem executed_once_in_order (sends : List Send) :
    (exec false (queue sends)).map (·.1) = sends.map (fun s => match s with | .direct id => id | .redirected id => id) := by
  generalize false = flag
  induction sends generalizing flag with
  | nil => rfl
  | cons s rest ih => cases s <;> exact congrArg (_ :: ·) (ih false)

/-- **Before cf7dbc3** ASKING and the command were two sends: another client's request for that node could be enqueued between
them — it takes the ASKING, the redirected command is answered MOVED. -/
theorem old_two_sends_can_be_separated :
    exec false [.asking, .cmd 2 false, .cmd 1 true] = [(2, true), (1, false)] := by decide

end SamVerif.Props.C04a

#print axioms SamVerif.Props.C04.redirections_end_at_the_holder
#print axioms SamVerif.Props.C04.no_redirect_when_table_is_current
#print axioms SamVerif.Props.C04.code_matches_model
#print axioms SamVerif.Props.C04.interference_only_costs_hops
#print axioms SamVerif.Props.C04.reference_route_is_the_proven_walk
#print axioms SamVerif.Props.C04a.every_command_served
#print axioms SamVerif.Props.C04a.executed_once_in_order
#print axioms SamVerif.Props.C04a.old_two_sends_can_be_separated
