/-
C01 — replies come back in request order, exactly one per request.

`Session.step` models one downstream connection (reader → bounded in-flight queue → writer,
requests completing in any order in between), `Session.wstep` the pairing of replies with
requests on a backend connection.  Function statements are regenerated from the source on every
run (`code_matches_model`); behaviour is tied by the differential run: real sessions over
loopback sockets on a socket-less processor with three backend nodes answering in forced orders,
fragmented request bytes, several concurrent connections — and pipelines over one real backend
connection with fragmented replies.  Error replies are single lines since 94de197 (F-01a).
`Compose.step` puts sessions and backend connections together (which reply a request gets); `SessFlush.step`
(namespace `C01f`) is the session's write buffer (F-01b).
-/
import SamVerif.Proofs.Session
import SamVerif.Gen.Session
import SamVerif.Proofs.Compose
import SamVerif.Proofs.SessFlush
namespace SamVerif.Props.C01
open SamVerif.Session

/-- **Replies are written in request order.** After any interleaving of the reader, the writer
and the completions of the requests (any order, any delay, any backend), the replies written so
far are exactly those of requests `0, 1, …, m-1` in this order, for some `m`. -/
theorem replies_in_request_order (cap : Nat) (ls : List Label) (s : Sess) (h : run { cap := cap } ls = some s) :
    s.written = List.range s.written.length :=
  prefix_of_range (by simpa only [line, List.append_assoc] using (inv_reach h).line)

/-- **One reply per request, never more**: no request's reply is written twice, and a reply is
only written for a request that has completed. -/
theorem at_most_one_reply (cap : Nat) (ls : List Label) (s : Sess) (h : run { cap := cap } ls = some s) :
    s.written.Nodup ∧ ∀ id ∈ s.written, id ∈ s.completed ∧ id < s.nread := by
  have hi := inv_reach h
  have hr := replies_in_request_order cap ls s h
  refine ⟨by rw [hr]; exact List.nodup_range, fun id hid => ⟨hi.doneWritten id hid, ?_⟩⟩
  exact List.mem_range.mp (hi.line ▸ (by simp [line, hid] : id ∈ line s))

/-- **Exactly one reply per request at rest**: when every request read so far has completed
and neither the reader's enqueue nor the writer has a step left, every request read has had its
reply written — in order. -/
theorem all_replied_at_rest (cap : Nat) (hcap : 0 < cap) (ls : List Label) (s : Sess)
    (h : run { cap := cap } ls = some s)
    (hall : ∀ id, id < s.nread → id ∈ s.completed)
    (hrest : step s .enqueue = none ∧ step s .take = none ∧ step s .write = none) :
    s.written = List.range s.nread := by
  have hi := inv_reach h
  obtain ⟨he, ht, hw⟩ := hrest
  -- the writer holds nothing: otherwise that request is complete and `write` is enabled
  have hwait : s.waiting = none := by
    cases hwv : s.waiting with
    | none => rfl
    | some id =>
      have hid : id ∈ line s := by simp [line, hwv]
      rw [hi.line] at hid
      have := hall id (List.mem_range.mp hid)
      simp [step.eq_def, hwv, this] at hw
  have hq : s.queue = [] := by
    cases hqv : s.queue with
    | nil => rfl
    | cons id rest => simp [step.eq_def, hwait, hqv] at ht
  have hin : s.inHand = none := by
    cases hiv : s.inHand with
    | none => rfl
    | some id => simp [step.eq_def, hiv, hq, hi.capEq, hcap] at he
  simpa [line, hwait, hq, hin] using hi.line

/-- three requests completing in reverse order are replied to in request order -/
example : ∃ s, run { cap := 32 }
    [.read, .enqueue, .read, .enqueue, .read, .enqueue, .take, .complete 2, .complete 1, .complete 0,
     .write, .take, .write, .take, .write] = some s ∧ s.written = [0, 1, 2] ∧ s.completed = [2, 1, 0] :=
  ⟨_, rfl, rfl, rfl⟩

/-- the writer cannot overtake: with request 0 outstanding nothing is written although 1 and 2 are complete -/
example : ∃ s, run { cap := 32 }
    [.read, .enqueue, .read, .enqueue, .read, .enqueue, .take, .complete 2, .complete 1] = some s ∧
    s.written = [] ∧ step s .write = none :=
  ⟨_, rfl, rfl, rfl⟩

/-- **Pairing.** On a backend connection, after any interleaving of its writer and reader, the
j-th reply has been given to the j-th request that was encoded onto the connection — whatever
other requests (of the same or of other downstream connections) are multiplexed on it. -/
theorem reply_j_goes_to_request_j (ls : List WLabel) (w : Wire) (h : wrun {} ls = some w)
    (j : Nat) (id k : Nat) (hj : w.paired[j]? = some (id, k)) : k = j ∧ w.wire[j]? = some id := by
  have hi := winv_reach h
  have hk : (w.paired.map (·.2))[j]? = some k := by rw [List.getElem?_map, hj]; rfl
  have hid : (w.paired.map (·.1))[j]? = some id := by rw [List.getElem?_map, hj]; rfl
  rw [hi.index] at hk
  obtain ⟨hlt, _⟩ := List.getElem?_eq_some_iff.mp hid
  refine ⟨eq_of_getElem?_range hk, ?_⟩
  rw [← hi.order, List.append_assoc, List.getElem?_append_left hlt]
  exact hid

example : ∃ w, wrun {} [.encode 7, .handoff, .encode 3, .encode 9] = none ∧
    wrun {} [.encode 7, .handoff, .encode 3, .handoff, .pair, .encode 9, .handoff, .pair, .pair] = some w ∧
    w.paired = [(7, 0), (3, 1), (9, 2)] ∧ w.wire = [7, 3, 9] :=
  ⟨_, rfl, rfl, rfl, rfl⟩

theorem code_matches_model :
    Gen.Session.serve =
      ["writeDone := make(chan struct{})",
      "go func() { s.loopWrite() s.conn.Close() s.doQuit() close(writeDone) }()",
      "s.loopRead()",
      "s.conn.Close()",
      "s.doQuit()",
      "<-writeDone",
      "close(s.done)"] ∧
    Gen.Session.loopRead =
      ["for { v, err := s.dec.Decode() if err != nil { if err != io.EOF { s.p.logger.Warnf(\"loop read exit: %v\", err) } return } req := newRawRequest(v) s.p.handleRequest(req) select { case s.processingReqs <- req: case <-s.quit: return } }"] ∧
    Gen.Session.loopWrite =
      ["var ( req *rawRequest err error )",
      "for { select { case <-s.quit: return case req = <-s.processingReqs: } select { case <-req.done: default: if err = s.enc.Flush(); err != nil { goto FAIL } select { case <-req.done: case <-s.quit: return } } resp := req.Response() if err = s.enc.Encode(resp); err != nil { goto FAIL } if len(s.processingReqs) != 0 { continue } if err = s.enc.Flush(); err != nil { goto FAIL } }",
      "FAIL: s.p.logger.Warnf(\"loop write exit: %v\", err)"] ∧
    Gen.Session.mgetSetResponse =
      ["v := make([]RespValue, len(r.children))",
      "for i, child := range r.children { v[i] = *child.Response() }",
      "r.raw.SetResponse(&RespValue{ Type: Array, Array: v, })"] ∧
    Gen.Session.sumSetResponse =
      ["total := int64(0)",
      "errCount := 0",
      "for _, child := range r.children { resp := child.Response() switch resp.Type { case Integer: total += resp.Int default: errCount++ } }",
      "if errCount == 0 { r.raw.SetResponse(newInteger(total)) } else { r.raw.SetResponse(newError(fmt.Sprintf(\"finished with %d error(s)\", errCount))) }"] ∧
    Gen.Session.newError =
      ["if strings.ContainsAny(s, \"\\r\\n\") { s = strings.NewReplacer(\"\\r\", \" \", \"\\n\", \" \").Replace(s) }",
      "return &RespValue{ Type: Error, Text: []byte(s), }"] ∧
    Gen.Session.clientLoopRead =
      ["for { resp, err := c.dec.Decode() if err != nil { if err != io.EOF && !strings.Contains(err.Error(), \"use of closed network connection\") { c.logger.Warnf(\"loop read exit: %v\", err) } return } verifPause(\"client.read.pair\", c) var req *simpleRequest select { case req = <-c.processingReqs: case <-c.quit: return } c.handleResp(req, resp) }"] ∧
    Gen.Session.queueCap = 32 := by
  refine ⟨rfl, rfl, rfl, rfl, rfl, rfl, rfl, rfl⟩

/-- **Traffic on other connections does not matter (projection).** In the composed system — any
number of downstream connections over any number of shared backend connections, every step of
every party interleaved freely — the state of each downstream connection is one it reaches
running alone: whatever the others do shows on it at most as the timing of completions. -/
theorem other_connections_do_not_matter (cap : Nat) (ls : List Compose.CLabel) (s : Compose.Sys)
    (h : Compose.run (Compose.init cap) ls = some s) (c : Nat) :
    ∃ own : List Label, run { cap := cap } own = some (s.sess c) :=
  Compose.reach_run h c

/-- hence on every connection of the composed system the replies are those of its requests
`0 … m-1`, in order, each once -/
theorem composed_replies_in_request_order (cap : Nat) (ls : List Compose.CLabel) (s : Compose.Sys)
    (h : Compose.run (Compose.init cap) ls = some s) (c : Nat) :
    (s.sess c).written = List.range (s.sess c).written.length ∧ (s.sess c).written.Nodup := by
  obtain ⟨own, ho⟩ := other_connections_do_not_matter cap ls s h c
  exact ⟨replies_in_request_order cap own _ ho, (at_most_one_reply cap own _ ho).1⟩

/-- **The k-th reply is the result of the k-th request.** The reply written at position `k` of
connection `c` belongs to request `(c, k)`, and what completed it was either the proxy itself or
the `j`-th reply of a backend connection whose `j`-th encoded request was `(c, k)` — never a
reply to another request, of this or any other connection. -/
theorem kth_reply_is_result_of_kth_request (cap : Nat) (ls : List Compose.CLabel) (s : Compose.Sys)
    (h : Compose.run (Compose.init cap) ls = some s) (c k id : Nat) (hk : (s.sess c).written[k]? = some id) :
    id = k ∧ ((∃ w j, ((c, k), (w, j)) ∈ s.results ∧ (s.wires w).wire[j]? = some (c, k)) ∨ (c, k) ∈ s.locals) := by
  obtain ⟨own, ho⟩ := other_connections_do_not_matter cap ls s h c
  have hr := replies_in_request_order cap own _ ho
  have hid : id = k := eq_of_getElem?_range (hr ▸ hk)
  subst hid
  refine ⟨rfl, ?_⟩
  have hmem : id ∈ (s.sess c).written := List.mem_of_getElem? hk
  have hdone := ((at_most_one_reply cap own _ ho).2 id hmem).1
  have hp := Compose.pinv_reach h
  rcases hp.done c id hdone with ⟨w, j, hwj⟩ | hl
  · exact Or.inl ⟨w, j, hwj, hp.res _ w j hwj⟩
  · exact Or.inr hl

/-- two connections pipelining over one shared backend
connection, the second connection's request encoded first, replies written on both -/
example : ∃ s, Compose.run (Compose.init 32)
    [.sess 0 .read, .sess 1 .read, .sess 0 .enqueue, .sess 1 .enqueue, .encode 7 (1, 0), .handoff 7, .encode 7 (0, 0),
     .handoff 7, .sess 0 .take, .pair 7 true, .pair 7 true, .sess 0 .write, .sess 1 .take, .sess 1 .write] = some s
    ∧ (s.sess 0).written = [0] ∧ (s.sess 1).written = [0]
    ∧ s.results = [((0, 0), (7, 1)), ((1, 0), (7, 0))] := by
  decide

end SamVerif.Props.C01

namespace SamVerif.Props.C01f
open SamVerif.SessFlush

/-- **Nothing finished waits in the write buffer while the writer is blocked** (after F-01b): in every reachable state in
which the writer waits — for a request to arrive, or for the answer to the request at the head of the queue — every reply
encoded so far has been flushed to the client. -/
theorem blocked_writer_has_flushed (ls : List Label) (s : W) (hr : run {} ls = some s) (hb : blocked s) : s.buf = [] := by
  obtain ⟨_, hwait, hidle⟩ := isRun.inv inv_step (by refine ⟨rfl, ?_, ?_⟩ <;> simp) hr
  rcases hb with ⟨h1, h2⟩ | ⟨id, h1, _⟩
  · exact hidle h1 h2
  · exact hwait id h1

/-- the writer before 58f2ae2: two requests are queued, the first is answered, the second is not — the first reply sits in
the buffer while the writer is blocked on the second -/
theorem old_writer_blocks_with_a_reply_in_the_buffer :
    ∃ s, run { old := true } [.enqueue 0, .enqueue 1, .complete 0, .take, .look, .encode, .take, .look] = some s ∧
      blocked s ∧ s.buf = [0] ∧ s.sent = [] := by
  refine ⟨_, rfl, Or.inr ⟨1, rfl, by decide⟩, rfl, rfl⟩

/-- the same schedule with the flush before the wait (`old := false`): the reply of request 0 is with the client -/
example : ∃ s, run {} [.enqueue 0, .enqueue 1, .complete 0, .take, .look, .encode, .take, .look] = some s ∧
      blocked s ∧ s.buf = [] ∧ s.sent = [0] := ⟨_, rfl, Or.inr ⟨1, rfl, by decide⟩, rfl, rfl⟩

end SamVerif.Props.C01f

#print axioms SamVerif.Props.C01.replies_in_request_order
#print axioms SamVerif.Props.C01.at_most_one_reply
#print axioms SamVerif.Props.C01.all_replied_at_rest
#print axioms SamVerif.Props.C01.reply_j_goes_to_request_j
#print axioms SamVerif.Props.C01.code_matches_model
#print axioms SamVerif.Props.C01.other_connections_do_not_matter
#print axioms SamVerif.Props.C01.composed_replies_in_request_order
#print axioms SamVerif.Props.C01.kth_reply_is_result_of_kth_request
#print axioms SamVerif.Props.C01f.blocked_writer_has_flushed
#print axioms SamVerif.Props.C01f.old_writer_blocks_with_a_reply_in_the_buffer
