/-
C17 — hot-restart frames and hand-over order.

`Gen.Hotrestart` (message type numbers, the dispatch switch, the call order inside each
handler, the read buffer size, the methods `instance` declares) is regenerated from the
source on every run; `Hot.readMsg`/`sendMsg` are a hand-written model of rpc.go tied by
the differential run over real unix sockets.
-/
import SamVerif.Model.Hot
import SamVerif.Gen.HotText
namespace SamVerif.Props.C17
open SamVerif SamVerif.Hot

/-- **Dispatch.** For every request type 0…255 the parent's reaction, as interpreted from
the handlers in the source, is the specified one: the matching step once and the matching
acknowledgement (for terminate: acknowledge, then kill), unknown types → unknown reply and
no action. (256 rows, checked by the kernel against the regenerated tables.) -/
theorem dispatch_matches_spec : ∀ t : Fin 256, parentStep t.val = specStep t.val := by
  decide +kernel

/-- **Every step of the Instance interface is implemented by the process instance itself**
(a missing one would be promoted from the embedded Restarter and recurse forever). -/
theorem instance_declares_interface :
    ∀ m ∈ Gen.Hotrestart.instanceIface, m ∈ Gen.Hotrestart.instanceOwnMethods := by
  decide +kernel

/-- the message constructors carry the types the protocol names -/
theorem reply_types :
    Gen.Hotrestart.shutdownAdminReq = 1 ∧ Gen.Hotrestart.shutdownAdminReply = 2 ∧
    Gen.Hotrestart.shutdownLocalConfReq = 3 ∧ Gen.Hotrestart.shutdownLocalConfReply = 4 ∧
    Gen.Hotrestart.drainListenersReq = 5 ∧ Gen.Hotrestart.drainListenersReply = 6 ∧
    Gen.Hotrestart.terminateReq = 7 ∧ Gen.Hotrestart.terminateReply = 8 ∧
    Gen.Hotrestart.unknownReply = 9 ∧ Gen.Hotrestart.readBufSize = 4096 := by decide

-- core's `Nat.sub_lt_iff_lt_add'` says the same and is proved by `omega`, which rests on `Classical.choice`
theorem sub_lt_iff {n k m : Nat} (h : k ≤ n) : n - k < m ↔ n < k + m := by
  rw [← Nat.not_le, Nat.le_sub_iff_add_le h, Nat.not_le, Nat.add_comm]

/-- `readMessage` is `parseMessage` on what one read delivers; its slice-bounds panic is dead code, since a read never
exceeds the buffer. -/
theorem readMsg_eq_parseMsg (bufSize : Nat) (d : Bytes) :
    readMsg bufSize d = match parseMsg (d.take bufSize) with
      | some ((t, len, p), _) => .ok t len p
      | none => .err := by
  unfold readMsg parseMsg
  simp only [List.length_take, Nat.min_comm]
  by_cases h1 : min bufSize d.length < 3
  · simp only [if_pos h1]
  simp only [if_neg h1, sub_lt_iff (Nat.le_of_not_lt h1)]
  split <;> rename_i h2
  · rfl
  rw [if_neg fun h => h2 (Nat.lt_of_le_of_lt (Nat.min_le_left ..) h)]

theorem parseMsg_eq_none (b : Bytes) :
    parseMsg b = none ↔ b.length < 3 ∨ b.length - 3 < (b.getD 1 0).toNat * 256 + (b.getD 2 0).toNat := by
  unfold parseMsg
  simp only
  split <;> rename_i h1
  · exact iff_of_true rfl (.inl h1)
  rw [sub_lt_iff (Nat.le_of_not_lt h1)]
  split <;> rename_i h2
  · exact iff_of_true rfl (.inr h2)
  · exact iff_of_false nofun (not_or.mpr ⟨h1, h2⟩)

theorem parseMsg_sendMsg (typ : Nat) (data rest : Bytes) (ht : typ < 256) (hl : data.length < 65536) :
    parseMsg (sendMsg typ data.length data ++ rest) = some ((typ, data.length, data), rest) := by
  have b1 : data.length / 256 % 256 = data.length / 256 := Nat.mod_eq_of_lt ((Nat.div_lt_iff_lt_mul (by decide)).mpr hl)
  simp [parseMsg, sendMsg, Nat.mod_eq_of_lt ht, b1, Nat.div_add_mod', Nat.add_comm 3]

/-- `readMessage` never panics, whatever arrives and whatever the buffer size. -/
theorem read_never_panics (bufSize : Nat) (d : Bytes) : readMsg bufSize d ≠ .panic := by
  rw [readMsg_eq_parseMsg]
  split <;> nofun

/-- **A frame is rejected exactly when it is shorter than its header or than its declared
length**; otherwise it is accepted with exactly the declared bytes. -/
theorem read_rejects_iff (bufSize : Nat) (d : Bytes) :
    readMsg bufSize d = .err ↔
      (min d.length bufSize < 3 ∨
       min d.length bufSize - 3 < ((d.take bufSize).getD 1 0).toNat * 256 + ((d.take bufSize).getD 2 0).toNat) := by
  rw [readMsg_eq_parseMsg, ← Nat.min_comm, ← List.length_take, ← parseMsg_eq_none]
  split <;> simp [*]

/-- **Round trip.** Every frame (any type, any payload up to the read size) written by
`sendMessage` is read back exactly: type, length, payload. -/
theorem read_send (bufSize typ : Nat) (data : Bytes) (ht : typ < 256) (hl : 3 + data.length ≤ bufSize)
    (hl2 : data.length < 65536) :
    readMsg bufSize (sendMsg typ data.length data) = .ok typ data.length data := by
  have hfit : (sendMsg typ data.length data).take bufSize = sendMsg typ data.length data ++ [] := by
    rw [List.append_nil]
    apply List.take_of_length_le
    simp [sendMsg]
    rwa [Nat.add_comm] at hl
  rw [readMsg_eq_parseMsg, hfit, parseMsg_sendMsg typ data [] ht hl2]

/-- **Hand-over trace.** For every sequence of well-formed requests (any types) sent by one
child, the parent performs exactly the specified steps, in the order requested, each
acknowledged with the matching reply. -/
theorem handover_trace (reqs : List (Fin 256)) :
    child 4096 (reqs.map (fun t => sendMsg t.val 2 [123, 125])) = reqs.flatMap (fun t => specStep t.val) := by
  have h (t : Fin 256) : readMsg 4096 (sendMsg t.val 2 [123, 125]) = .ok t.val 2 [123, 125] :=
    read_send 4096 t.val [123, 125] t.isLt (by decide) (by decide)
  simp only [child, List.flatMap_map, h, dispatch_matches_spec]

/-- **A child that disappears does not prevent a later child from completing the hand-over**:
the children are served one after the other; whatever the earlier children sent (including
unreadable frames, or nothing), the later child's requests are performed and acknowledged. -/
theorem later_child_completes (earlier : List (List Bytes)) (reqs : List (Fin 256)) :
    parent 4096 (earlier ++ [reqs.map (fun t => sendMsg t.val 2 [123, 125])])
      = parent 4096 earlier ++ reqs.flatMap (fun t => specStep t.val) := by
  unfold parent
  simp [List.flatMap_append, handover_trace]

theorem frame_eq (t : Fin 256) : frame t = [UInt8.ofNat t.val, 0, 2, 123, 125] := by
  simp [frame, sendMsg]

theorem parseMsg_frame (t : Fin 256) (rest : Bytes) :
    parseMsg (frame t ++ rest) = some ((t.val, 2, [123, 125]), rest) :=
  parseMsg_sendMsg t.val [123, 125] rest t.isLt (by decide)

theorem parseAll_nil (fuel : Nat) : parseAll fuel [] = [] := by
  cases fuel <;> rfl

theorem parseAll_frames (ts : List (Fin 256)) (fuel : Nat) (hf : ts.length ≤ fuel) :
    parseAll fuel ((ts.map frame).flatten) = ts.map fun t => (t.val, 2, [123, 125]) := by
  induction fuel generalizing ts with
  | zero => rw [List.length_eq_zero_iff.mp (Nat.le_zero.mp hf)]; rfl
  | succ fuel ih =>
    cases ts with
    | nil => rfl
    | cons t ts =>
      have ih := ih ts (Nat.le_of_succ_le_succ hf)
      simp only [List.map_cons, List.flatten_cons, parseAll, parseMsg_frame]
      split
      · -- nothing follows: `ts` is empty, since `parseAll` of nothing is nothing
        rename_i he
        rw [← ih, List.isEmpty_iff.mp he, parseAll_nil]
      · rw [ih]

theorem readMsgs_frames (g : List (Fin 256)) (hlen : 5 * g.length ≤ 4096) :
    readMsgs 4096 ((g.map frame).flatten) = g.map fun t => (t.val, 2, [123, 125]) := by
  have hl : ((g.map frame).flatten).length = 5 * g.length := by
    simp [List.length_flatten, Function.comp_def, frame_eq, List.map_const', Nat.mul_comm]
  unfold readMsgs
  rw [List.take_of_length_le (hl ▸ hlen), parseAll_frames g _ (hl ▸ Nat.le_succ_of_le (Nat.le_mul_of_pos_left _ (by decide)))]

/-- **Every request is performed once, in the order requested, and acknowledged — however the requests are grouped into reads.**
A child sends the request frames `groups.flatten`; the stream socket delivers them to the parent in reads of any grouping (each read:
some consecutive frames, at most the 4096 bytes of the read buffer, i.e. up to 819 frames).  The parent performs exactly the specified
steps, in the order requested, each with the matching reply (unknown types with the unknown reply). -/
theorem handover_trace_any_grouping (groups : List (List (Fin 256))) (hsz : ∀ g ∈ groups, g ≠ [] ∧ 5 * g.length ≤ 4096) :
    childReads 4096 (groups.map fun g => (g.map frame).flatten) = groups.flatten.flatMap (fun t => specStep t.val) := by
  unfold childReads
  induction groups with
  | nil => rfl
  | cons g gs ih =>
    obtain ⟨-, hlen⟩ := hsz g (by simp)
    simp only [List.map_cons, List.flatMap_cons, List.flatten_cons, List.flatMap_append]
    rw [ih fun g' hg' => hsz g' (by simp [hg']), readMsgs_frames g hlen]
    simp only [List.flatMap_map, dispatch_matches_spec]

/-- before 0f56e69 one read was one request: the second frame of a read was dropped -/
theorem old_one_frame_per_read :
    child 4096 [frame 5 ++ frame 1] = specStep 5 ∧ childReads 4096 [frame 5 ++ frame 1] = specStep 5 ++ specStep 1 := by
  constructor
  · have h : (frame 5 ++ frame 1).take 4096 = frame 5 ++ frame 1 := List.take_of_length_le (by decide)
    simp only [child, List.flatMap_cons, List.flatMap_nil, List.append_nil, readMsg_eq_parseMsg, h, parseMsg_frame]
    exact dispatch_matches_spec 5
  · exact handover_trace_any_grouping [[5, 1]] (by decide)

/-- F-17a (repaired by c234c2d, 8d6f9ce; the old check is kept as `readMsgOld`): a frame declaring 3 payload bytes but
carrying 2 was accepted (with an invented zero byte). -/
theorem old_accepts_short_frame :
    readMsgOld 4096 [1, 0, 3, 120, 121] = .ok 1 3 [120, 121, 0] := by decide +kernel

/-- the repaired code rejects it -/
theorem new_rejects_short_frame : readMsg 4096 [1, 0, 3, 120, 121] = .err := by decide

/-- the old guard `n-2 < Len` lets a full buffer declaring `Len = n-2` through, and `b[3:3+Len]` ends one past the buffer -/
theorem readMsgOld_full_panics (bufSize : Nat) (d : Bytes) (h3 : 3 ≤ bufSize) (hd : d.length = bufSize)
    (hlen : (d.getD 1 0).toNat * 256 + (d.getD 2 0).toNat = bufSize - 2) : readMsgOld bufSize d = .panic := by
  simp only [readMsgOld, hd, Nat.min_self, Nat.sub_self, List.replicate_zero, List.append_nil,
    List.take_of_length_le (Nat.le_of_eq hd), hlen]
  rw [if_neg (Nat.not_lt_of_le h3), if_neg (Nat.lt_irrefl _), if_pos (by omega)]

/-- F-17b: with the old check a full 4096-byte read declaring 4094 payload bytes panicked
(slice bounds 4097 > 4096). -/
theorem old_panics_on_full_buffer :
    readMsgOld 4096 ([1, 15, 254] ++ List.replicate 4093 7) = .panic :=
  readMsgOld_full_panics 4096 _ (by decide) (by rw [List.length_append, List.length_replicate]; rfl) rfl

example : child 4096 [sendMsg 1 2 [123,125], sendMsg 5 2 [123,125], sendMsg 7 2 [123,125]] =
    [.act "ShutdownAdmin", .reply 2, .act "DrainListeners", .reply 6, .reply 8, .act "kill"] :=
  handover_trace [1, 5, 7]

/-- **The code the model was written against.** The statements of the modelled functions,
regenerated from the current source on every run, are the ones the model was written against;
any edit to one of them makes this obligation fail and starts a search for a failing input. -/
theorem control_loop_matches_model :
    Gen.HotText.handleChild =
      ["logger.Info(\"Child connected\")",
      "defer func() { logger.Info(\"Child disconnected\") }()",
      "go func() { <-r.quit conn.Close() }()",
      "for { select { case <-r.quit: return default: } msgs, err := readMessages(conn) for _, msg := range msgs { logger.Debugf(\"Receive message %v from child\", msg) r.dispatch(conn, msg) } if err != nil { if ne, ok := err.(*net.OpError); ok && ne.Err == io.EOF { return } logger.Warnf(\"Read msg from child failed: %v\", err) } }"] ∧
    Gen.HotText.dispatch =
      ["var handle func(from *net.UnixConn, data []byte)",
      "switch msg.Type { case shutdownLocalConfReq: handle = r.handleShutdownLocalConfRequest case shutdownAdminReq: handle = r.handleShutdownAdminRequest case drainListenersReq: handle = r.handleDrainListenersRequest case terminateReq: handle = r.handleTerminateRequest default: handle = r.handleUnknownRequest }",
      "handle(conn, msg.Data)"] ∧
    Gen.HotText.readMessage =
      ["b := make([]byte, 4096)",
      "n, _, _, _, err := conn.ReadMsgUnix(b, nil)",
      "if err != nil { return nil, err }",
      "msg, _, err := parseMessage(b[:n])",
      "return msg, err"] ∧
    Gen.HotText.readMessages =
      ["b := make([]byte, 4096)",
      "n, _, _, _, err := conn.ReadMsgUnix(b, nil)",
      "if err != nil { return nil, err }",
      "b = b[:n]",
      "var msgs []*message",
      "for { msg, rest, err := parseMessage(b) if err != nil { return msgs, err } msgs = append(msgs, msg) if len(rest) == 0 { return msgs, nil } b = rest }"] ∧
    Gen.HotText.parseMessage =
      ["if len(b) < 3 { return nil, nil, errors.New(\"invalid header\") }",
      "msg := new(message)",
      "msg.Type = messageType(b[0])",
      "msg.Len = uint16(b[1])<<8 | uint16(b[2])",
      "end := 3 + int(msg.Len)",
      "if len(b) < end { return nil, nil, errors.New(\"incomplete data\") }",
      "msg.Data = b[3:end]",
      "return msg, b[end:], nil"] ∧
    Gen.HotText.sendMessage =
      ["b := make([]byte, 3+msg.Len)",
      "b[0] = byte(msg.Type)",
      "b[1] = byte(msg.Len >> 8)",
      "b[2] = byte(msg.Len)",
      "copy(b[3:], msg.Data)",
      "_, _, err := conn.WriteMsgUnix(b, nil, nil)",
      "return err"] := by
  refine ⟨rfl, rfl, rfl, rfl, rfl, rfl⟩

end SamVerif.Props.C17

#print axioms SamVerif.Props.C17.dispatch_matches_spec
#print axioms SamVerif.Props.C17.instance_declares_interface
#print axioms SamVerif.Props.C17.read_never_panics
#print axioms SamVerif.Props.C17.read_rejects_iff
#print axioms SamVerif.Props.C17.read_send
#print axioms SamVerif.Props.C17.handover_trace
#print axioms SamVerif.Props.C17.later_child_completes
#print axioms SamVerif.Props.C17.old_accepts_short_frame
#print axioms SamVerif.Props.C17.old_panics_on_full_buffer
#print axioms SamVerif.Props.C17.control_loop_matches_model
#print axioms SamVerif.Props.C17.handover_trace_any_grouping
#print axioms SamVerif.Props.C17.old_one_frame_per_read
