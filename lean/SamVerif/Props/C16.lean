/-
C16 — discovery subscriptions track the dependency set and survive stream failures.

`Sub.step` is the labelled transition system of config/discovery.go's svcDiscoveryClient as
repaired (6c6850f: callers never block — pending changes in an unbounded slice under the lock;
a349465: only the latest pending change of a service is sent).  The statements of every function
involved are regenerated from the source on every run and compared with what the model was
written against (`code_matches_model`); behaviour is tied by the differential run of the real
client against scripted streams under a forced schedule.
-/
import SamVerif.Proofs.Sub
import SamVerif.Gen.Sub
namespace SamVerif.Props.C16
open SamVerif.Sub

/-- **Tracking.** In every reachable state — any interleaving of caller, run loop, sender and
receiver steps, with stream creation, Send and Recv failing wherever they like — whenever a
stream is up with nothing pending and nothing in flight, the services subscribed on it
(subscribe requests minus unsubscribe requests sent on that stream) are exactly the current
dependency set. -/
theorem tracks_dependencies (ls : List Label) (s : St) (h : run {} ls = some s)
    (hidle : s.phase = .idle) (hp : s.pending = []) : ∀ k, s.server k = s.subscribed k :=
  (inv_reach h).synced hidle hp

/-- **Bounded catch-up, sender parked.** From any reachable state with the stream up and the
sender parked, one request brings the server's set to the dependency set (if no further change
arrives meanwhile). -/
theorem catches_up_in_one_message (ls : List Label) (s : St) (h : run {} ls = some s)
    (hidle : s.phase = .idle) (hp : s.pending ≠ []) :
    ∃ s', run s [.take, .sent] = some s' ∧ s'.phase = .idle ∧ s'.pending = [] ∧
      (∀ k, s'.subscribed k = s.subscribed k) ∧ ∀ k, s'.server k = s.subscribed k := by
  have hs := script_in_sync (inv_reach h)
  rwa [script, hidle, script.flush, if_neg hp] at hs

/-- **Bounded catch-up, request in flight.** With a request in flight, at most two requests. -/
theorem catches_up_in_two_messages (ls : List Label) (s : St) (m : Msg) (h : run {} ls = some s)
    (hsend : s.phase = .sending m) :
    (s.pending = [] → ∃ s', run s [.sent] = some s' ∧ s'.phase = .idle ∧ ∀ k, s'.server k = s.subscribed k) ∧
    (s.pending ≠ [] → ∃ s', run s [.sent, .take, .sent] = some s' ∧ s'.phase = .idle ∧ s'.pending = [] ∧
      ∀ k, s'.server k = s.subscribed k) := by
  obtain ⟨s', hr, h1, h2, -, h5⟩ := script_in_sync (inv_reach h)
  rw [script, hsend, script.flush] at hr
  constructor <;> intro hp
  · rw [if_pos hp] at hr; exact ⟨s', hr, h1, h5⟩
  · rw [if_neg hp] at hr; exact ⟨s', hr, h1, h2, h5⟩

/-- Every request the sender builds means the same under both readings of the protocol
(subscribe-then-unsubscribe, unsubscribe-then-subscribe): no service is in both lists. -/
theorem request_unambiguous (server : NSet) (pending : Ops) (k : Nat) :
    applyMsgSU server (mkMsg pending) k = applyMsgUS server (mkMsg pending) k ∧
    ¬ (k ∈ (mkMsg pending).subs ∧ k ∈ (mkMsg pending).unsubs) :=
  ⟨by rw [(applyMsg_mkMsg ..).1, (applyMsg_mkMsg ..).2], mkMsg_disjoint pending k⟩

/-- **Callers never block**: Subscribe and Unsubscribe are enabled in every state — stream
down, being established, sender busy — however many changes are already pending. -/
theorem caller_never_blocks (s : St) (n : Nat) : (step s (.sub n)).isSome ∧ (step s (.unsub n)).isSome := by
  constructor <;> unfold step <;> split <;> rfl

/-- **No deadlock**: in every state the run loop has an enabled step of its own. -/
theorem run_loop_never_stuck (s : St) :
    (step s .connect).isSome ∨ (step s .resubSent).isSome ∨ (step s .sent).isSome ∨ (step s .recvFail).isSome := by
  obtain ⟨_, _, _, _, phase⟩ := s
  cases phase with
  | down => left; rfl
  | snap l => right; left; rfl
  | idle => right; right; right; rfl
  | sending m => right; right; left; rfl

/-- after any failure the client is back where a new stream can be created, with the
dependency set intact: it never stops retrying and loses nothing while the stream is down -/
theorem failure_returns_to_retry (s s' : St) (l : Label)
    (hl : l = .resubFail ∨ l = .sendFail ∨ l = .recvFail) (h : step s l = some s') :
    s'.phase = .down ∧ s'.subscribed = s.subscribed ∧ (step s' .connect).isSome := by
  -- the step only sets the phase, and `connect` asks for nothing but that phase
  obtain ⟨_, _, _, _, phase⟩ := s
  rcases hl with rfl | rfl | rfl <;> cases phase <;> cases h <;> exact ⟨rfl, rfl, rfl⟩

def recoveryLabel (l : Label) : Prop := l = .connect ∨ l = .resubSent ∨ l = .take ∨ l = .sent

theorem script_recovery (s : St) : (script s).length ≤ 3 ∧ ∀ l ∈ script s, recoveryLabel l := by
  unfold script script.flush recoveryLabel
  -- by phase, then (but for `down`) by whether anything is pending
  split <;> (try split) <;> decide

/-- **Recovery from every reachable state.** Whatever has happened — any number of failed stream
creations, failed resubscriptions, failed sends and receives, at any point, with any changes made
by callers in between — from the state reached there is a run of at most four steps of the run
loop alone (create the stream, resubscribe, take the pending batch, send it; no step of a caller
is needed, none fails) after which a stream is up, nothing is pending and the services subscribed
on the stream are exactly the dependency set. Together with `run_loop_never_stuck` (the loop
always has a step) and `failure_returns_to_retry`: the client never ends up in a state from which
it cannot get back in sync. -/
theorem recovers_from_every_state (ls : List Label) (s : St) (h : run {} ls = some s) :
    ∃ (rec : List Label) (s' : St), rec.length ≤ 4 ∧ (∀ l ∈ rec, recoveryLabel l) ∧ run s rec = some s' ∧
      s'.phase = .idle ∧ s'.pending = [] ∧ (∀ k, s'.subscribed k = s.subscribed k) ∧ ∀ k, s'.server k = s.subscribed k := by
  obtain ⟨s', hs'⟩ := script_in_sync (inv_reach h)
  exact ⟨script s, s', Nat.le_succ_of_le (script_recovery s).1, (script_recovery s).2, hs'⟩

/-- more than sixteen changes while no stream exists, then a stream: tracked (the shape of F-16a) -/
example :
    let ls := ((List.range 20).map Label.sub) ++ [.connect, .resubSent, .unsub 3, .sub 40, .take, .sent]
    ∃ s, run {} ls = some s ∧ s.phase = .idle ∧ s.pending = [] ∧
      (List.range 50).all (fun k => s.server k == s.subscribed k) = true ∧ s.server 19 = true ∧ s.server 3 = false :=
  ⟨_, rfl, rfl, rfl, by decide +kernel⟩

/-- **The old batching was ambiguous (F-16b)**: before a349465 `Unsubscribe x; Subscribe x` and
`Subscribe x; Unsubscribe x` behind a busy sender produced the same request, so no reading of a
request by the server can track both histories. -/
theorem old_batching_ambiguous :
    mkMsgOld [(1, false), (1, true)] = mkMsgOld [(1, true), (1, false)] ∧
    ¬ ∃ f : NSet → Msg → NSet, ∀ (s : NSet) (ops : Ops) (k : Nat), f s (mkMsgOld ops) k = applyOps s ops k := by
  have he : mkMsgOld [(1, false), (1, true)] = mkMsgOld [(1, true), (1, false)] := by decide
  refine ⟨he, fun ⟨f, hf⟩ => ?_⟩
  have h1 := hf (fun _ => false) [(1, false), (1, true)] 1
  have h2 := hf (fun _ => false) [(1, true), (1, false)] 1
  rw [he, h2] at h1
  simp [applyOps, upd] at h1

/-- The statements of the client's functions (regenerated from the working tree on every
run) are the ones the model was written against: critical sections under `c.Lock()`, no
blocking operation inside them (the wake-up is a `select` with `default`), `takePending`
keeping only the latest change of a service, `resubscribe` clearing the pending changes in the
same critical section as the snapshot, and a retry loop that returns only when the context
is done. -/
theorem code_matches_model :
    Gen.Sub.subscribe =
      ["c.Lock()",
      "defer c.Unlock()",
      "_, ok := c.subscribed[svcName]",
      "if ok { return }",
      "c.subscribed[svcName] = struct{}{}",
      "c.addPendingLocked(svcName, true)"] ∧
    Gen.Sub.unsubscribe =
      ["c.Lock()",
      "defer c.Unlock()",
      "_, ok := c.subscribed[svcName]",
      "if !ok { return }",
      "delete(c.subscribed, svcName)",
      "c.addPendingLocked(svcName, false)"] ∧
    Gen.Sub.addPendingLocked =
      ["c.pending = append(c.pending, subscriptionChange{svcName, subscribe})",
      "select { case c.notify <- struct{}{}: default: }"] ∧
    Gen.Sub.takePending =
      ["c.Lock()",
      "pending := c.pending",
      "c.pending = nil",
      "c.Unlock()",
      "latest := make(map[string]int, len(pending))",
      "for i, change := range pending { latest[change.svcName] = i }",
      "for i, change := range pending { if latest[change.svcName] != i { continue } if change.subscribe { subscribed = append(subscribed, change.svcName) } else { unsubscribed = append(unsubscribed, change.svcName) } }",
      "return"] ∧
    Gen.Sub.resubscribe =
      ["c.Lock()",
      "svcNames := make([]string, 0, len(c.subscribed))",
      "for svcName := range c.subscribed { svcNames = append(svcNames, svcName) }",
      "c.pending = nil",
      "c.Unlock()",
      "if len(svcNames) == 0 { return nil }",
      "return stream.Send(svcNames, nil)"] ∧
    Gen.Sub.loopSend =
      ["for { select { case <-c.notify: case <-stop: return } subscribed, unsubscribed := c.takePending() if len(subscribed) == 0 && len(unsubscribed) == 0 { continue } err := stream.Send(subscribed, unsubscribed) if err != nil { logger.Warnf(\"Send to service %s discovery stream failed: %v\", c.scope, err) return } }"] ∧
    Gen.Sub.loopRecv =
      ["for { if err := stream.Recv(); err != nil { logger.Warnf(\"Recv from service %s stream failed: %v\", c.scope, err) return } }"] ∧
    Gen.Sub.runOnce =
      ["stream, err := c.newStream(ctx)",
      "if err != nil { logger.Warnf(\"Fail to create service %s discovery stream: %v\", c.scope, err) return }",
      "if err := c.resubscribe(stream); err != nil { logger.Warnf(\"Resubscribe services on %s discovery stream failed: %v\", c.scope, err) return }",
      "recvDone := make(chan struct{})",
      "defer func() { <-recvDone }()",
      "go func() { defer close(recvDone) c.loopRecv(stream) }()",
      "c.loopSend(stream, recvDone)"] ∧
    Gen.Sub.runLoop =
      ["jitter := 0.2",
      "baseInterval := time.Second",
      "for { c.run(ctx) select { case <-ctx.Done(): return default: } interval := time.Duration((1 + (2*rand.Float64()-1)*jitter) * float64(baseInterval)) logger.Warnf(\"The discovery loop of service %s terminated unexpectedly, retry after %s\", c.scope, interval) t := time.NewTimer(interval) select { case <-t.C: case <-ctx.Done(): return } }"] := by
  refine ⟨rfl, rfl, rfl, rfl, rfl, rfl, rfl, rfl, rfl⟩

end SamVerif.Props.C16

#print axioms SamVerif.Props.C16.tracks_dependencies
#print axioms SamVerif.Props.C16.catches_up_in_one_message
#print axioms SamVerif.Props.C16.catches_up_in_two_messages
#print axioms SamVerif.Props.C16.request_unambiguous
#print axioms SamVerif.Props.C16.caller_never_blocks
#print axioms SamVerif.Props.C16.run_loop_never_stuck
#print axioms SamVerif.Props.C16.failure_returns_to_retry
#print axioms SamVerif.Props.C16.old_batching_ambiguous
#print axioms SamVerif.Props.C16.code_matches_model
#print axioms SamVerif.Props.C16.recovers_from_every_state
