/-
C10 — RESP codec: decode and encode are inverse (stream level).

`decode` is the decoder of codec.go written over an abstract byte source; it is instantiated
with the specification source `streamSrc` (a plain byte list and the reader buffer size) for
the round-trip theorems, and with `Reader.src` (bufio.go's buffered reader over a connection
that delivers arbitrary non-empty chunks) for `chunking_independent`: the two agree, for every
chunking.  The tie of `decode`/`encode` and of the `Reader` model to the Go code is the
differential run (DESIGN.md §4 C10).
-/
import SamVerif.Proofs.RespRefine
import SamVerif.Gen.Codec
import SamVerif.Gen.Bufio
namespace SamVerif.Props.C10
open SamVerif.Resp SamVerif.Proofs.Resp

mutual
/-- The round trip at every fuel above the depth. `32 ≤ sz`, here and below: the buffer has to hold an integer or length
line, up to 20 bytes and CR LF, or `ReadSlice` fails (`decodeInt_stream`). -/
theorem decode_encode_fuel (sz : Nat) (hsz : 32 ≤ sz) :
    (v : Resp) → wf v = true → ∀ (f : Nat) (rest : Bytes), depth v ≤ f →
      decode streamSrc (f + 1) ⟨sz, encode v ++ rest⟩ = some (v, ⟨sz, rest⟩)
  | .int i, h, f, rest, _ => by
    simp only [wf, Bool.and_eq_true, decide_eq_true_eq] at h
    simp only [encode, List.cons_append, List.append_assoc, decode_stream_int, decodeInt_stream sz hsz i h.1 h.2]
    rfl
  | .simple t, h, f, rest, _ | .err t, h, f, rest, _ => by
    simp only [wf, Bool.and_eq_true, decide_eq_true_eq] at h
    simp only [encode, List.cons_append, List.append_assoc, decode_stream_simple, decode_stream_err,
      decodeText_stream sz t (all_ne_LF h.1) h.2]
    rfl
  | .bulk none, _, f, rest, _ => by
    simp only [encode, List.cons_append, decode_stream_bulk, decodeBulk_stream_null sz hsz]
    rfl
  | .bulk (some t), h, f, rest, _ => by
    simp only [wf, decide_eq_true_eq] at h
    simp only [encode, List.cons_append, decode_stream_bulk, decodeBulk_stream sz hsz t h]
    rfl
  | .arr none, _, f, rest, _ => by
    simp only [encode, List.cons_append, List.append_assoc, decode_stream_arr,
      decodeInt_stream sz hsz (-1) (by decide) (by decide)]
    rfl
  | .arr (some vs), h, f, rest, hf => by
    simp only [wf, Bool.and_eq_true, decide_eq_true_eq] at h
    have hi := decodeInt_stream_len sz hsz vs.length (Nat.lt_of_le_of_lt h.1 (by decide)) (encodeList vs ++ rest)
    -- the members are decoded with one unit of fuel less
    simp only [encode, List.cons_append, List.append_assoc, decode_stream_arr, hi, Option.bind_some, len_guards h.1,
      Int.toNat_natCast, decodeN_encode_fuel sz hsz vs h.2 f rest hf]
theorem decodeN_encode_fuel (sz : Nat) (hsz : 32 ≤ sz) :
    (vs : List Resp) → wfList vs = true → ∀ (fuel : Nat) (rest : Bytes), depthList vs < fuel →
      decodeN (decode streamSrc fuel) vs.length ⟨sz, encodeList vs ++ rest⟩ = some (vs, ⟨sz, rest⟩)
  | [], _, _, _, _ => rfl
  | v :: vs, h, f + 1, rest, hf => by
    simp only [wfList, Bool.and_eq_true] at h
    simp only [depthList, Nat.max_lt] at hf
    simp only [decodeN, encodeList, List.length_cons, List.append_assoc, Option.bind_eq_bind,
      decode_encode_fuel sz hsz v h.1 f _ (Nat.le_of_lt_succ hf.1), decodeN_encode_fuel sz hsz vs h.2 (f + 1) rest hf.2,
      Option.bind_some]
    rfl
end

mutual
theorem depth_lt_encode : (v : Resp) → depth v < (encode v).length
  | .arr (some vs) => by
    have := depthList_le_encode vs
    have hc : crlf.length = 2 := rfl
    simp only [depth, encode, List.length_cons, List.length_append]; omega
  | .int _ | .simple _ | .err _ | .bulk none | .bulk (some _) | .arr none => Nat.zero_lt_succ _
theorem depthList_le_encode : (vs : List Resp) → depthList vs ≤ (encodeList vs).length
  | [] => by simp [depthList]
  | v :: vs => by
    rw [depthList, encodeList, List.length_append]
    exact Nat.max_le.mpr
      ⟨Nat.le_add_right_of_le (Nat.le_of_lt (depth_lt_encode v)), Nat.le_add_left_of_le (depthList_le_encode vs)⟩
end

/-- **Round trip.** For every well-formed RESP value, every continuation `rest` of the
stream and every reader buffer size ≥ 32: decoding the encoding yields the value and
leaves exactly `rest` unconsumed. (`hd`: nesting within the decoder's limit of 32 levels, the
bound that C11 requires.) -/
theorem decode_encode (sz : Nat) (hsz : 32 ≤ sz) (v : Resp) (h : wf v = true) (hd : depth v ≤ maxArrayDepth)
    (rest : Bytes) :
    decodeStream sz (encode v ++ rest) = some (v, rest) := by
  unfold decodeStream
  rw [decode_encode_fuel sz hsz v h maxArrayDepth rest hd]

/-- **Canonical bytes re-encode to themselves**: bytes in the image of the encoder decode
to a value whose encoding is those bytes. -/
theorem reencode_canonical (sz : Nat) (hsz : 32 ≤ sz) (v : Resp) (h : wf v = true) (hd : depth v ≤ maxArrayDepth) :
    (decodeStream sz (encode v)).map (fun p => encode p.1) = some (encode v) := by
  have := decode_encode sz hsz v h hd []
  simp at this
  simp [this]

theorem encode_ne_nil (v : Resp) : encode v ≠ [] :=
  List.ne_nil_of_length_pos (Nat.zero_lt_of_lt (depth_lt_encode v))

/-- **Concatenation.** A concatenation of encoded messages decodes to exactly those
messages, in order, ending cleanly (every message consumed exactly its own bytes). -/
theorem decodeAll_encodeList (sz : Nat) (hsz : 32 ≤ sz) :
    ∀ (vs : List Resp), wfList vs = true → depthList vs ≤ maxArrayDepth → ∀ fuel, vs.length < fuel →
      decodeAllStream sz fuel (encodeList vs) = (vs, true)
  | [], _, _, _ + 1, _ => rfl
  | v :: vs, h, hdep, f + 1, hf => by
    simp only [wfList, Bool.and_eq_true] at h
    simp only [depthList, Nat.max_le] at hdep
    have hne : (encode v ++ encodeList vs).isEmpty = false := by simp [encode_ne_nil]
    simp only [decodeAllStream, encodeList, hne, Bool.false_eq_true, if_false,
      decode_encode sz hsz v h.1 hdep.1 (encodeList vs),
      decodeAll_encodeList sz hsz vs h.2 hdep.2 f (Nat.lt_of_succ_lt_succ hf)]

/-- The limits, type bytes and delimiters the model uses are the ones in the source,
and the buffer sizes the proxy uses are within the theorems' range (≥ 32). -/
theorem constants_match_source :
    Gen.Codec.maxArrayLen = maxArrayLen ∧ Gen.Codec.maxBulkStringLen = maxBulkStringLen ∧
    Gen.Codec.maxArrayDepth = maxArrayDepth ∧ Gen.Codec.maxLineLen = maxLineLen ∧
    Gen.Codec.cr = CR.toNat ∧ Gen.Codec.lf = LF.toNat ∧
    Gen.Codec.simpleString = tPlus.toNat ∧ Gen.Codec.error = tMinus.toNat ∧ Gen.Codec.integer = tColon.toNat ∧
    Gen.Codec.bulkString = tDollar.toNat ∧ Gen.Codec.array = tStar.toNat ∧
    32 ≤ Gen.Codec.upstream_newDecoder_bufSize ∧ 32 ≤ Gen.Codec.session_newDecoder_bufSize ∧
    32 ≤ Gen.Codec.defaultBufferSize := by decide

/-- Not one of the five RESP type bytes. -/
def notTypeByte (c : UInt8) : Bool :=
  c != tColon && c != tPlus && c != tMinus && c != tDollar && c != tStar

/-- **Inline commands.** An inline command (non-empty tokens without space or LF,
separated by single spaces, not starting with a type byte) decodes to the same request
as its array-of-bulk-strings form, consuming exactly its line. -/
theorem inline_eq_array (sz : Nat) (hsz : 32 ≤ sz) (t : Bytes) (ts : List Bytes)
    (hc : ∀ u ∈ t :: ts, u ≠ [] ∧ u.length ≤ maxBulkStringLen ∧ ∀ c ∈ u, c ≠ SP ∧ c ≠ LF)
    (hlen : (t :: ts).length ≤ maxArrayLen) (hline : (joinSP (t :: ts)).length + 2 ≤ maxLineLen)
    (hfirst : ∀ c rest', t = c :: rest' → notTypeByte c = true) (rest : Bytes) :
    decodeStream sz (joinSP (t :: ts) ++ (crlf ++ rest))
      = decodeStream sz (encode (.arr (some ((t :: ts).map (fun u => .bulk (some u))))) ++ rest) := by
  have hwf : wf (.arr (some ((t :: ts).map (fun u => Resp.bulk (some u))))) = true := by
    simp only [wf, Bool.and_eq_true, decide_eq_true_eq, List.length_map]
    exact ⟨hlen, wfList_bulks _ fun u hu => (hc u hu).2.1⟩
  have hdep : depth (.arr (some ((t :: ts).map (fun u => Resp.bulk (some u))))) ≤ maxArrayDepth := by
    simp only [depth, depthList_bulks]; decide
  rw [decode_encode sz hsz _ hwf hdep rest]
  obtain ⟨c, t', rfl⟩ : ∃ c t', t = c :: t' := by
    cases t with
    | nil => exact absurd rfl (hc [] (by simp)).1
    | cons c t' => exact ⟨c, t', rfl⟩
  have hnoLF := joinSP_no_LF _ (fun u hu c hcu => ((hc u hu).2.2 c hcu).2)
  have htext := decodeText_stream sz _ hnoLF hline rest
  have hsplit := splitSpaces_joinSP ((c :: t') :: ts) (by simp) (fun u hu c hcu => ((hc u hu).2.2 c hcu).1)
    (fun u hu => (hc u hu).1)
  rw [joinSP_cons_cons, List.cons_append] at htext ⊢
  unfold decodeStream
  rw [decode_stream_inline _ _ _ _ (hfirst c t' rfl)]
  simp [decodeInline, htext, ← joinSP_cons_cons, hsplit]

/-- **Chunking does not matter.** For every way the connection cuts the byte stream into
non-empty reads, every reader buffer size ≥ 1 and every nesting budget: decoding from the
buffered reader gives exactly what decoding from the plain byte stream gives — the same value
with the same bytes left (those in the reader's window followed by the chunks not read yet), or
a failure in both. -/
theorem chunking_independent (size : Nat) (hsize : 0 < size) (chunks : List Bytes)
    (hne : ∀ c ∈ chunks, c ≠ []) (fuel : Nat) :
    match decode Reader.src fuel ⟨size, [], chunks, false⟩, decode streamSrc fuel ⟨size, chunks.flatten⟩ with
    | some (v, r), some (w, s) => v = w ∧ s.data = r.win ++ r.chunks.flatten
    | none, none => True
    | _, _ => False := by
  have := decode_sim reader_sim fuel _ _ (Rel.init hsize hne)
  revert this
  generalize decode Reader.src fuel _ = x
  generalize decode streamSrc fuel _ = y
  match x, y with
  | some (v, r), some (w, s) => exact fun h => ⟨h.1, h.2.data⟩
  | none, none => exact fun _ => trivial
  | some _, none => exact id
  | none, some _ => exact id

/-- **Round trip through any chunking.** Encode a well-formed value, append any continuation,
cut the bytes into non-empty chunks any way you like: the buffered reader (buffer ≥ 32) decodes
the value and leaves exactly the continuation. -/
theorem decode_encode_chunked (size : Nat) (hsz : 32 ≤ size) (v : Resp) (h : wf v = true)
    (hd : depth v ≤ maxArrayDepth) (rest : Bytes) (chunks : List Bytes) (hne : ∀ c ∈ chunks, c ≠ [])
    (hcut : chunks.flatten = encode v ++ rest) :
    ∃ r, decode Reader.src (maxArrayDepth + 1) ⟨size, [], chunks, false⟩ = some (v, r) ∧
      r.win ++ r.chunks.flatten = rest := by
  have := decode_sim reader_sim (maxArrayDepth + 1) _ _ (Rel.init (size := size) (by omega) hne)
  rw [hcut, decode_encode_fuel size hsz v h maxArrayDepth rest hd] at this
  obtain ⟨r, hr, hrel⟩ := this.of_some
  exact ⟨r, hr, hrel.data.symm⟩

/-- a message cut inside the length, inside the CRLF and inside the payload -/
example : ∃ r, decode Reader.src 33 ⟨32, [], [[36], [51, 13], [10, 97], [98, 99, 13], [10, 43]], false⟩
    = some (.bulk (some [97, 98, 99]), r) ∧ r.win ++ r.chunks.flatten = [43] := ⟨_, rfl, rfl⟩

-- a 3-level nested array with null, empty and binary members
def sample : Resp :=
  .arr (some [.int (-9223372036854775808), .bulk none, .bulk (some []), .arr none, .arr (some []),
    .arr (some [.simple [13, 43], .err [0, 255], .arr (some [.bulk (some [10, 13, 0]), .int 32769])])])

example : wf sample = true := by decide
example : depth sample = 3 := by decide
example : depth sample ≤ maxArrayDepth := by decide

/-- **The code the model was written against.** The statements of the modelled functions,
regenerated from the current source on every run, are the ones the model was written against;
any edit to one of them makes this obligation fail and starts a search for a failing input. -/
theorem reader_matches_model :
    Gen.Bufio.fill =
      ["if b.err != nil { return b.err }",
      "if b.rderr != nil { b.err = b.rderr return b.err }",
      "if b.r > 0 { n := copy(b.buf, b.buf[b.r:b.w]) b.r = 0 b.w = n }",
      "n, err := b.rd.Read(b.buf[b.w:])",
      "if n > 0 { b.w += n b.rderr = err return nil }",
      "if err != nil { b.err = err } else { b.err = io.ErrNoProgress }",
      "return b.err"] ∧
    Gen.Bufio.read =
      ["if b.err != nil || len(p) == 0 { return 0, b.err }",
      "if b.buffered() == 0 { if b.rderr != nil { b.err = b.rderr return 0, b.err } if len(p) >= len(b.buf) { n, err := b.rd.Read(p) if err != nil { b.err = err } return n, b.err } if b.fill() != nil { return 0, b.err } }",
      "n := copy(p, b.buf[b.r:b.w])",
      "b.r += n",
      "return n, nil"] ∧
    Gen.Bufio.readByte =
      ["if b.err != nil { return 0, b.err }",
      "if b.buffered() == 0 { if b.fill() != nil { return 0, b.err } }",
      "c := b.buf[b.r]",
      "b.r++",
      "return c, nil"] ∧
    Gen.Bufio.peekByte =
      ["if b.err != nil { return 0, b.err }",
      "if b.buffered() == 0 { if b.fill() != nil { return 0, b.err } }",
      "c := b.buf[b.r]",
      "return c, nil"] ∧
    Gen.Bufio.readSlice =
      ["if b.err != nil { return nil, b.err }",
      "for { var index = bytes.IndexByte(b.buf[b.r:b.w], delim) if index >= 0 { limit := b.r + index + 1 slice := b.buf[b.r:limit] b.r = limit return slice, nil } if b.buffered() == len(b.buf) { b.r = b.w return b.buf, bufio.ErrBufferFull } if b.fill() != nil { return nil, b.err } }"] ∧
    Gen.Bufio.readBytes =
      ["var full [][]byte",
      "var last []byte",
      "var size int",
      "for last == nil { f, err := b.ReadSlice(delim) if err != nil { if err != bufio.ErrBufferFull { return nil, b.err } dup := b.slice.Make(len(f)) copy(dup, f) full = append(full, dup) } else { last = f } size += len(f) if size > maxLineLen { return nil, ErrLineTooLong } }",
      "var n int",
      "var buf = b.slice.Make(size)",
      "for _, frag := range full { n += copy(buf[n:], frag) }",
      "copy(buf[n:], last)",
      "return buf, nil"] ∧
    Gen.Bufio.readFull =
      ["if b.err != nil || n == 0 { return nil, b.err }",
      "// NOTE: use customize slice allocator to reduce allocs. var buf = b.slice.Make(n)",
      "if _, err := io.ReadFull(b, buf); err != nil { return nil, err }",
      "return buf, nil"] := by
  refine ⟨rfl, rfl, rfl, rfl, rfl, rfl, rfl⟩

end SamVerif.Props.C10

#print axioms SamVerif.Props.C10.decode_encode
#print axioms SamVerif.Props.C10.reencode_canonical
#print axioms SamVerif.Props.C10.decodeAll_encodeList
#print axioms SamVerif.Props.C10.chunking_independent
#print axioms SamVerif.Props.C10.decode_encode_chunked
#print axioms SamVerif.Props.C10.inline_eq_array
#print axioms SamVerif.Props.C10.constants_match_source
#print axioms SamVerif.Props.C10.reader_matches_model
