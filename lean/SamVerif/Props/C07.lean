/-
C07 — the proxy heals after connection loss and topology change.

`Upstream.cstep` models the table of backend connections for one address (lookup, one shared
connect attempt whose entry is removed on completion — the repair of F-07a —, a connection
ending and removing itself), `Upstream.rstep` the slot table against the cluster's layout
(MOVED → resend + refresh trigger; refresh → table := layout; a failed refresh stays armed).
Function statements are regenerated from the source and compared (`code_matches_model`); behaviour
is tied by the differential run of a real Redis processor over real sockets against a scripted
cluster whose nodes drop connections, go down, come back and hand slots over.
-/
import SamVerif.Model.Upstream
import SamVerif.Proofs.Lts
import SamVerif.Gen.Upstream
namespace SamVerif.Props.C07
open SamVerif.Upstream

theorem request_failed_iff (s : CState) :
    request s = .failed ↔ s.table = .ended ∨ (s.table = .absent ∧ s.call = .none ∧ s.up = false) := by
  unfold request
  cases s.table <;> cases s.call <;> simp

/-- **Errors only while unreachable.** A request for an address fails only if the node does not
accept connections, or the end of its previous connection has not been processed yet (the
connection still sits in the table for the moment it takes its goroutine to remove it). -/
theorem error_only_when_unreachable (s : CState) (h : request s = .failed) : s.up = false ∨ s.table = .ended := by
  rcases (request_failed_iff s).mp h with h | ⟨_, _, h⟩
  · exact .inr h
  · exact .inl h

/-- **Healing.** Whatever happened before — connections lost, the node restarted, connects
refused — once the node accepts connections and the old connection (if any) has removed itself,
a request is served: over the connection in the table, or over a new one. -/
theorem heals (ls : List CLabel) (s : CState) (_h : crun {} ls = some s) (hup : s.up = true)
    (hne : s.table ≠ .ended) : request s = .served ∨ request s = .waiting := by
  have := mt (request_failed_iff s).mp (by simp [hne, hup])
  cases h : request s <;> simp_all

/-- an ended connection always removes itself, and a waiting request's attempt always finishes:
neither state lasts -/
theorem transient_states_end (s : CState) :
    (s.table = .ended → (cstep s .selfRemove).isSome = true) ∧
    (s.call = .running → ∃ s', cstep s .attemptEnd = some s' ∧ s'.call = .none ∧
        (s.up = true → s.table = .absent → s'.table = .alive)) := by
  constructor
  · intro h; simp [cstep.eq_def, h]
  · intro h
    refine ⟨{ s with call := .none, table := if s.up ∧ s.table = .absent then .alive else s.table }, by simp [cstep.eq_def, h], rfl, ?_⟩
    intro hu ht; simp [hu, ht]

theorem oldRun_isRun : Lts.IsRun oldStep oldRun :=
  ⟨fun _ => rfl, fun s l ls => by rw [oldRun]; cases oldStep s l <;> rfl⟩

/-- A finished attempt left in `createClientCalls` is never looked at again: nothing is in the
table, so no label but `attemptBegin` could touch the entry, and that needs the entry gone. -/
theorem old_stuck {a b : OldState} {ls : List CLabel} (h1 : a.table = .absent)
    (h2 : a.call = .doneOk ∨ a.call = .doneErr) (hr : oldRun a ls = some b) : oldRequest b = .failed := by
  have hb := oldRun_isRun.inv (P := fun s => s.table = .absent ∧ (s.call = .doneOk ∨ s.call = .doneErr))
    (fun s l s' hp hs => by
      revert hs
      fun_cases oldStep s l <;> rintro ⟨⟩ <;> simp_all) ⟨h1, h2⟩ hr
  rcases hb with ⟨ht, hc | hc⟩ <;> simp [oldRequest, ht, hc]

/-- **The defect that was repaired (F-07a).** With the finished attempt left in the table of
attempts, one lost connection is enough: the node is up, nothing is left of the old connection,
and yet every request fails — for every continuation of the history. -/
theorem old_never_heals_after_connection_loss :
    ∃ s, oldRun {} [.attemptBegin, .attemptEnd, .connLost, .selfRemove] = some s ∧
      s.up = true ∧ s.table = .absent ∧
      ∀ ls s', oldRun s ls = some s' → oldRequest s' = .failed :=
  ⟨{ up := true, table := .absent, call := .doneOk }, rfl, rfl, rfl,
    fun _ _ => old_stuck rfl (.inl rfl)⟩

/-- … and after a refused first connect the cached error is handed out for ever, also once the node is up -/
theorem old_never_heals_after_refused_connect :
    ∃ s, oldRun {} [.nodeDown, .attemptBegin, .attemptEnd, .nodeUp] = some s ∧ s.up = true ∧
      ∀ ls s', oldRun s ls = some s' → oldRequest s' = .failed :=
  ⟨{ up := true, table := .absent, call := .doneErr }, rfl, rfl,
    fun _ _ => old_stuck rfl (.inr rfl)⟩

/-- the same two histories on the model of the repaired code -/
example : ∃ s, crun {} [.attemptBegin, .attemptEnd, .connLost, .selfRemove] = some s ∧ request s = .served :=
  ⟨_, rfl, rfl⟩
example : ∃ s, crun {} [.nodeDown, .attemptBegin, .attemptEnd, .nodeUp] = some s ∧ request s = .served :=
  ⟨_, rfl, rfl⟩

/-- **A redirection arms a refresh**, a failed refresh stays armed (it is retried), and a
request that is not redirected changes nothing. -/
theorem redirect_arms_refresh (s s' : RState) (slot seed : Nat) (h : rstep s (.request slot seed) = some s') :
    (s'.redirects = s.redirects ∧ s'.refreshArmed = s.refreshArmed) ∨
    (s'.redirects = s.redirects + 1 ∧ s'.refreshArmed = true) := by
  simp only [rstep.eq_def] at h
  split at h <;> injection h with h <;> subst h <;> simp

theorem failed_refresh_stays_armed (s s' : RState) (h : rstep s .refreshFail = some s') : s'.refreshArmed = true := by
  simp only [rstep.eq_def] at h
  split at h
  · injection h with h; subst h; assumption
  · cases h

/-- **One successful refresh is enough.** After it, and until the cluster changes its layout
again, no request is redirected: every keyed request is delivered first to the node that owns
its slot. -/
theorem no_redirect_after_refresh (s s1 : RState) (h : rstep s .refreshOk = some s1)
    (reqs : List (Nat × Nat)) :
    ∃ s2, rrun s1 (reqs.map fun p => RLabel.request p.1 p.2) = some s2 ∧ s2.redirects = s1.redirects := by
  have htab : ∀ k, s1.table k = some (s1.truth k) := by
    simp only [rstep.eq_def] at h
    split at h
    · injection h with h; subst h; intro k; rfl
    · cases h
  induction reqs with
  | nil => exact ⟨s1, rfl, rfl⟩
  | cons p rest ih =>
    obtain ⟨s2, h2, hr⟩ := ih
    refine ⟨s2, ?_, hr⟩
    simp only [List.map_cons, rrun, rstep.eq_def, firstNode, htab, Option.getD_some, if_true]
    exact h2

/-- the bounded convergence the property asks for: a request that hits a stale entry is
redirected (and served by the owner), that arms a refresh, and the first refresh that succeeds
ends the redirections -/
theorem converges_after_first_redirect (s : RState) (slot seed : Nat)
    (hstale : firstNode s slot seed ≠ s.truth slot) :
    ∃ s1 s2, rstep s (.request slot seed) = some s1 ∧ s1.refreshArmed = true ∧
      rstep s1 .refreshOk = some s2 ∧ ∀ k sd, firstNode s2 k sd = s2.truth k := by
  refine ⟨{ s with redirects := s.redirects + 1, refreshArmed := true },
    { s with redirects := s.redirects + 1, table := fun k => some (s.truth k), refreshArmed := false },
    by simp [rstep.eq_def, hstale], rfl, by simp [rstep.eq_def], ?_⟩
  intro k sd; simp [firstNode]

/-- **The code the model was written against.** -/
theorem code_matches_model :
    Gen.Upstream.handleRedirection =
      ["err := strings.Split(string(resp.Text), \" \")",
      "if len(err) < 3 { req.SetResponse(resp) return }",
      "hostAddr := err[2]",
      "switch strings.ToLower(err[0]) { case MOVED: u.stats.Counter(\"moved\").Inc() u.MakeRequestToHost(hostAddr, req) case ASK: askingReq := newSimpleRequest(newArray( *newBulkString(ASKING), )) askingReq.abort = req.abort u.MakeRequestToHost(hostAddr, askingReq, req) default: req.SetResponse(resp) return }",
      "u.triggerSlotsRefresh()"] ∧
    Gen.Upstream.getClient =
      ["c, ok := u.loadClients()[addr]",
      "if ok { return c, nil }",
      "v, loaded := u.createClientCalls.LoadOrStore(addr, &createClientCall{ done: make(chan struct{}), })",
      "call := v.(*createClientCall)",
      "if loaded { <-call.done return call.res, call.err }",
      "c, err := u.createClient(addr)",
      "call.res, call.err = c, err",
      "close(call.done)",
      "u.createClientCalls.Delete(addr)",
      "return c, err"] ∧
    Gen.Upstream.createClient =
      ["u.clientsMu.Lock()",
      "select { case <-u.quit: u.clientsMu.Unlock() return nil, errors.New(upstreamExited) default: }",
      "c, ok := u.loadClients()[addr]",
      "u.clientsMu.Unlock()",
      "if ok { return c, nil }",
      "conn, err := netutil.Dial(\"tcp\", addr, *u.cfg.ConnectTimeout)",
      "if err != nil { return nil, err }",
      "options := []clientOption{ withKeyCounter(u.hkc.AllocCounter(addr)), withRedirectionCb(u.handleRedirection), withClusterDownCb(u.handleClusterDown), }",
      "c, err = newClient(conn, u.cfg, u.logger, options...)",
      "if err != nil { conn.Close() return nil, err }",
      "u.clientsMu.Lock()",
      "defer u.clientsMu.Unlock()",
      "select { case <-u.quit: conn.Close() return nil, errors.New(upstreamExited) default: }",
      "verifPause(\"upstream.client.checked\", u)",
      "if existing, ok := u.loadClients()[addr]; ok { conn.Close() return existing, nil }",
      "go func() { c.Start() u.removeEndedClient(addr, c) }()",
      "u.addClientLocked(addr, c)",
      "return c, nil"] ∧
    Gen.Upstream.removeClient =
      ["u.clientsMu.Lock()",
      "defer u.clientsMu.Unlock()",
      "u.removeClientLocked(addr)"] ∧
    Gen.Upstream.makeRequestToHost =
      ["for _, req := range reqs { u.stats.RqTotal.Inc() req.RegisterHook(func(req *simpleRequest) { if req.Response().Type == Error { u.stats.RqFailureTotal.Inc() } else { u.stats.RqSuccessTotal.Inc() } u.stats.RqDurationMs.Record(uint64(req.Duration() / time.Millisecond)) }) }",
      "fail := func(msg string) { for _, req := range reqs { req.SetResponse(newError(msg)) } }",
      "select { case <-u.quit: fail(upstreamExited) return default: }",
      "verifPause(\"upstream.request.checked\", u)",
      "c, err := u.getClient(addr)",
      "if err != nil { u.triggerSlotsRefresh() fail(err.Error()) return }",
      "c.Send(reqs...)"] ∧
    Gen.Upstream.triggerSlotsRefresh =
      ["select { case u.slotsRefreshCh <- struct{}{}: default: }",
      "if u.slotsRefTriggerHook != nil { u.slotsRefTriggerHook() }"] ∧
    Gen.Upstream.loopRefreshSlots =
      ["u.triggerSlotsRefresh()",
      "for { select { case <-u.quit: return case <-time.After(slotsRefFreq): case <-u.slotsRefreshCh: } u.refreshSlots() t := time.NewTimer(slotsRefMinRate) select { case <-t.C: case <-u.quit: t.Stop() return } }"] ∧
    Gen.Upstream.refreshSlots =
      ["scope := u.stats.NewChild(\"slots_refresh\")",
      "scope.Counter(\"total\").Inc()",
      "err := u.doSlotsRefresh()",
      "if err == nil { u.logger.Debugf(\"refresh slots success\") scope.Counter(\"success_total\").Inc() u.slotsLastUpdateTime = time.Now() return }",
      "scope.Counter(\"failure_total\").Inc()",
      "u.logger.Warnf(\"fail to refresh slots: %v, will retry...\", err)",
      "u.triggerSlotsRefresh()",
      "return"] ∧
    Gen.Upstream.doSlotsRefresh =
      ["v := newArray( *newBulkString(\"cluster\"), *newBulkString(\"nodes\"), )",
      "req := newSimpleRequest(v)",
      "addr, err := u.randomHost()",
      "if err != nil { return err }",
      "giveUp := make(chan struct{})",
      "timer := time.NewTimer(slotsRefTimeout)",
      "defer timer.Stop()",
      "go func() { select { case <-req.done: return case <-u.quit: case <-timer.C: } close(giveUp) }()",
      "req.abort = giveUp",
      "u.MakeRequestToHost(addr, req)",
      "select { case <-req.done: case <-giveUp: select { case <-req.done: case <-u.quit: return errors.New(upstreamExited) default: return errors.New(\"no answer to cluster nodes from \" + addr) } }",
      "resp := req.Response()",
      "if resp.Type == Error { return errors.New(string(resp.Text)) }",
      "if resp.Type != BulkString { return errInvalidClusterNodes }",
      "insts, err := parseClusterNodes(string(resp.Text))",
      "if err != nil { return err }",
      "for _, inst := range insts { for _, slot := range inst.Slots { if slot < 0 || slot >= slotNum { continue } u.slots[slot] = inst } }",
      "return nil"] ∧
    Gen.Upstream.chooseHost =
      ["hash := crc16(hashtag(routingKey))",
      "inst := u.slots[hash&(slotNum-1)]",
      "if inst == nil { return u.randomHost() }",
      "if !req.IsReadOnly() { return inst.Addr, nil }",
      "// read-only requests var candidates []string",
      "readStrategy := redis.ReadStrategy_MASTER",
      "if option := u.cfg.GetRedisOption(); option != nil { readStrategy = option.ReadStrategy }",
      "switch readStrategy { case redis.ReadStrategy_MASTER: candidates = append(candidates, inst.Addr) case redis.ReadStrategy_BOTH: candidates = append(candidates, inst.Addr) fallthrough case redis.ReadStrategy_REPLICA: for _, replica := range inst.Replicas { candidates = append(candidates, replica.Addr) } }",
      "if len(candidates) == 0 { candidates = append(candidates, inst.Addr) }",
      "i := 0",
      "l := len(candidates)",
      "if l > 1 { i = int(time.Now().UnixNano()) % l }",
      "return candidates[i], nil"] := by
  refine ⟨rfl, rfl, rfl, rfl, rfl, rfl, rfl, rfl, rfl, rfl⟩

/-- **The code the model was written against.** -/
theorem new_client_matches_model :
    Gen.Upstream.newClient =
      ["userTimeout := time.Second * 10",
      "sock := conn",
      "if w, ok := conn.(*netutil.Conn); ok { sock = w.Conn }",
      "if err := syscall.SetTCPUserTimeout(sock, userTimeout); err != nil { return nil, err }",
      "c := &client{ cfg: cfg, logger: logger, conn: conn, enc: newEncoder(conn, 4096), dec: newDecoder(conn, 8192), pendingReqs: make(chan *simpleRequest, 1024), processingReqs: make(chan *simpleRequest, 1024), quit: make(chan struct{}), done: make(chan struct{}), }",
      "for _, option := range options { option(c) }",
      "if err := c.initFilters(); err != nil { return nil, err }",
      "readOnlyReq := newSimpleRequest(newStringArray(\"readonly\"))",
      "c.Send(readOnlyReq)",
      "return c, nil"] := rfl

end SamVerif.Props.C07

#print axioms SamVerif.Props.C07.error_only_when_unreachable
#print axioms SamVerif.Props.C07.heals
#print axioms SamVerif.Props.C07.transient_states_end
#print axioms SamVerif.Props.C07.old_never_heals_after_connection_loss
#print axioms SamVerif.Props.C07.old_never_heals_after_refused_connect
#print axioms SamVerif.Props.C07.redirect_arms_refresh
#print axioms SamVerif.Props.C07.failed_refresh_stays_armed
#print axioms SamVerif.Props.C07.no_redirect_after_refresh
#print axioms SamVerif.Props.C07.converges_after_first_redirect
#print axioms SamVerif.Props.C07.code_matches_model
#print axioms SamVerif.Props.C07.new_client_matches_model
