/-
C03 — on a stable cluster the proxy behaves like a single Redis server.

`Upstream.proxyExec` delivers every keyed command to the node owning the key's slot and executes
it on that node's key space; split commands are delivered key by key and re-assembled in
argument order.  `Upstream.execSingle` is one server holding all the data.  The slot function is
property C12, the byte-exact relaying of keys and values property C10; here keys and values are
abstract.  Function statements (routing by the first argument, the split and merge of multi-key
commands, the slot lookup) are regenerated from the source and compared; behaviour is tied by
the differential run of a real Redis processor over real sockets against a scripted cluster,
with the single-server semantics as the reference, binary keys and values included.
-/
import SamVerif.Proofs.Upstream
import SamVerif.Gen.Upstream
namespace SamVerif.Props.C03
open SamVerif.Upstream

def runSingle (s : KV) : List Cmd → KV × List (List Nat)
  | [] => (s, [])
  | c :: rest => let (s1, r) := execSingle s c; let (s2, rs) := runSingle s1 rest; (s2, r :: rs)

def runProxy (c : Cluster) : List Cmd → Cluster × List (List Nat)
  | [] => (c, [])
  | cmd :: rest => let (c1, r) := proxyExec c cmd; let (c2, rs) := runProxy c1 rest; (c2, r :: rs)

theorem step_refines (c : Cluster) (s : KV) (cmd : Cmd) (h : Represents c s) :
    Represents (proxyExec c cmd).1 (execSingle s cmd).1 ∧ (proxyExec c cmd).2 = (execSingle s cmd).2 := by
  cases cmd with
  | one c1 k =>
    have := represents_exec1 c s c1 k h
    exact ⟨this.1, by simp [proxyExec.eq_def, execSingle.eq_def, this.2]⟩
  | many cs => exact represents_many cs c s h

/-- **Refinement.** For every slot function, every slot-to-node layout, every single-key
command (given by what it leaves under its key and what it answers), every split command and
every program of them: if the cluster's key spaces together hold exactly the single server's
data, each key on the node owning its slot, then the proxy's replies are the single server's
replies, command by command, and afterwards the cluster again holds exactly the single server's
data. -/
theorem proxy_refines_single (prog : List Cmd) : ∀ (c : Cluster) (s : KV), Represents c s →
    (runProxy c prog).2 = (runSingle s prog).2 ∧ Represents (runProxy c prog).1 (runSingle s prog).1 := by
  induction prog with
  | nil => intro c s h; exact ⟨rfl, h⟩
  | cons cmd rest ih =>
    intro c s h
    have h1 := step_refines c s cmd h
    have h2 := ih _ _ h1.1
    simp only [runProxy, runSingle]
    exact ⟨by rw [h1.2, h2.1], h2.2⟩

/-- the empty cluster represents the empty server, whatever the layout -/
theorem empty_represents (slot : Key → Nat) (owner : Nat → Nat) :
    Represents ⟨slot, owner, fun _ _ => none⟩ (fun _ => none) := by
  intro k; exact ⟨rfl, fun _ _ => rfl⟩

/-- every keyed command is delivered first to the node that owns the key's slot: with a loaded
table a stable cluster sends no redirection (the redirection side is C04's `nodeAnswer`) -/
theorem delivered_to_the_owner (c : Cluster) (cmd : Cmd1) (k : Key) :
    nodeAnswer ⟨c.owner (c.slot k), none⟩ (c.nodeOf k) true false = .serve := by
  simp [nodeAnswer, Cluster.nodeOf]

/-- SET on three keys spread over two nodes, an MGET over them and a DEL of two -/
example :
    let set (v : Nat) : Cmd1 := ⟨fun _ => some v, fun _ => 1⟩
    let get : Cmd1 := ⟨id, fun o => o.getD 0⟩
    let del : Cmd1 := ⟨fun _ => none, fun o => if o.isSome then 1 else 0⟩
    let c0 : Cluster := ⟨fun k => k % 4, fun s => s % 2, fun _ _ => none⟩
    let prog := [Cmd.one (set 7) 1, .one (set 8) 2, .one (set 9) 3, .many [(get, 1), (get, 2), (get, 3), (get, 4)],
                 .many [(del, 1), (del, 4)], .many [(get, 1), (get, 2)]]
    (runProxy c0 prog).2 = [[1], [1], [1], [7, 8, 9, 0], [1, 0], [0, 8]] ∧
    (runProxy c0 prog).1.data 1 3 = some 9 ∧ (runProxy c0 prog).1.data 0 3 = none := by
  refine ⟨by decide, by decide, by decide⟩

/-- **The code the model was written against.** -/
theorem code_matches_model :
    Gen.Upstream.makeRequest =
      ["addr, err := u.chooseHost(routingKey, req)",
      "if err != nil { req.SetResponse(newError(err.Error())) return }",
      "u.MakeRequestToHost(addr, req)"] ∧
    Gen.Upstream.chooseHost =
      ["hash := crc16(hashtag(routingKey))",
      "inst := u.slots[hash&(slotNum-1)]",
      "if inst == nil { return u.randomHost() }",
      "if !req.IsReadOnly() { return inst.Addr, nil }",
      "// read-only requests var candidates []string",
      "readStrategy := redis.ReadStrategy_MASTER",
      "if option := u.cfg.GetRedisOption(); option != nil { readStrategy = option.ReadStrategy }",
      "switch readStrategy { case redis.ReadStrategy_MASTER: candidates = append(candidates, inst.Addr) case redis.ReadStrategy_BOTH: candidates = append(candidates, inst.Addr) fallthrough case redis.ReadStrategy_REPLICA: for _, replica := range inst.Replicas { candidates = append(candidates, replica.Addr) } }",
      "if len(candidates) == 0 { candidates = append(candidates, inst.Addr) }",
      "i := 0",
      "l := len(candidates)",
      "if l > 1 { i = int(time.Now().UnixNano()) % l }",
      "return candidates[i], nil"] ∧
    Gen.Upstream.handleSimpleCommand =
      ["body := req.Body()",
      "if len(body.Array) < 2 { req.SetResponse(newError(invalidRequest)) return }",
      "simpleReq := newSimpleRequest(body)",
      "simpleReq.RegisterHook(func(simpleReq *simpleRequest) { req.SetResponse(simpleReq.Response()) })",
      "key := body.Array[1].Text",
      "u.MakeRequest(key, simpleReq)"] ∧
    Gen.Upstream.handleSumResultCommand =
      ["sumResultReq, err := newSumResultRequest(req)",
      "if err != nil { req.SetResponse(newError(err.Error())) return }",
      "simpleReqs := sumResultReq.Split()",
      "for i := 0; i < len(simpleReqs); i++ { simpleReq := simpleReqs[i] key := simpleReq.Body().Array[1].Text u.MakeRequest(key, simpleReq) }"] ∧
    Gen.Upstream.handleMGet =
      ["mgetReq, err := newMGetRequest(req)",
      "if err != nil { req.SetResponse(newError(err.Error())) return }",
      "simpleReqs := mgetReq.Split()",
      "for i := 0; i < len(simpleReqs); i++ { simpleReq := simpleReqs[i] key := simpleReq.Body().Array[1].Text u.MakeRequest(key, simpleReq) }"] ∧
    Gen.Upstream.handleMSet =
      ["msetReq, err := newMSetRequest(req)",
      "if err != nil { req.SetResponse(newError(err.Error())) return }",
      "simpleReqs := msetReq.Split()",
      "for i := 0; i < len(simpleReqs); i++ { simpleReq := simpleReqs[i] key := simpleReq.Body().Array[1].Text u.MakeRequest(key, simpleReq) }"] ∧
    Gen.Upstream.mgetSplit =
      ["if r.children != nil { return r.children }",
      "v := r.raw.Body().Array",
      "sreqs := make([]*simpleRequest, 0, len(v)-1)",
      "for i := 1; i < len(v); i++ { sv := &RespValue{ Type: Array, Array: []RespValue{ {Type: BulkString, Text: []byte(\"get\")}, v[i], }, } sreq := newSimpleRequest(sv) sreq.RegisterHook(r.onChildDone) sreqs = append(sreqs, sreq) }",
      "r.children = sreqs",
      "r.childWait.Store(int32(len(sreqs)))",
      "return sreqs"] ∧
    Gen.Upstream.msetSplit =
      ["if r.children != nil { return r.children }",
      "v := r.raw.Body().Array",
      "sreqs := make([]*simpleRequest, 0, len(v)/2)",
      "for i := 0; i < len(v)/2; i++ { sv := &RespValue{ Type: Array, Array: []RespValue{ {Type: BulkString, Text: []byte(\"set\")}, v[2*i+1], v[2*(i+1)], }, } sreq := newSimpleRequest(sv) sreq.RegisterHook(r.onChildDone) sreqs = append(sreqs, sreq) }",
      "r.children = sreqs",
      "r.childWait.Store(int32(len(sreqs)))",
      "return sreqs"] ∧
    Gen.Upstream.sumSplit =
      ["if r.children != nil { return r.children }",
      "v := r.raw.Body().Array",
      "sreqs := make([]*simpleRequest, 0, len(v)-1)",
      "for i := 1; i < len(v); i++ { sv := &RespValue{ Type: Array, Array: []RespValue{ v[0], v[i], }, } sreq := newSimpleRequest(sv) sreq.RegisterHook(r.onChildDone) sreqs = append(sreqs, sreq) }",
      "r.children = sreqs",
      "r.childWait.Store(int32(len(sreqs)))",
      "return sreqs"] := by
  refine ⟨rfl, rfl, rfl, rfl, rfl, rfl, rfl, rfl, rfl⟩

end SamVerif.Props.C03

#print axioms SamVerif.Props.C03.proxy_refines_single
#print axioms SamVerif.Props.C03.empty_represents
#print axioms SamVerif.Props.C03.delivered_to_the_owner
#print axioms SamVerif.Props.C03.code_matches_model
