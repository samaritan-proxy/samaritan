/-
C13 — transparent compression never changes what clients read back.

`Compress.*` models filter_compress.go (as repaired by 871a36a and 1178625) for an arbitrary
codec satisfying `decomp (comp v) = some v`; header, value positions and guards are regenerated
from the source (`Gen.Compress`). Tied by the differential run through the real filter chain
with the real snappy.
-/
import SamVerif.Model.Compress
import SamVerif.Gen.Filters
namespace SamVerif.Props.C13
open SamVerif SamVerif.Compress

/-- **What reaches the backend** is the original value, or the header followed by the codec's
stream for exactly that value, and then strictly shorter than the original. -/
theorem stored_is_original_or_frame (C : Codec) (thr : Nat) (v : Bytes) :
    compressValue C thr v = v ∨
    (compressValue C thr v = hdr ++ C.comp v ∧ (hdr ++ C.comp v).length < v.length ∧
      C.decomp ((hdr ++ C.comp v).drop hdr.length) = some v) := by
  fun_cases compressValue C thr v
  · exact .inl rfl
  · exact .inl rfl
  · exact .inl rfl
  next h => exact .inr ⟨rfl, Nat.lt_of_not_ge h, by rw [List.drop_left]; exact C.roundtrip v⟩

theorem isFramed_frame (C : Codec) (v : Bytes) : isFramed (hdr ++ C.comp v) = true := by
  unfold isFramed; simp

theorem compressValue_frame (C : Codec) (thr : Nat) (v : Bytes) :
    compressValue C thr (hdr ++ C.comp v) = hdr ++ C.comp v := by
  simp only [compressValue, isFramed_frame, ↓reduceIte, ite_self]

theorem decompress_plain (C : Codec) (v : Bytes) (hv : isFramed v = false) : decompressValue C v = v := by
  unfold decompressValue; simp [hv]

theorem decompress_frame (C : Codec) (v : Bytes) : decompressValue C (hdr ++ C.comp v) = v := by
  rw [decompressValue, if_pos (isFramed_frame C v), List.drop_left, C.roundtrip]

/-- **Read back.** For every codec, threshold and value that does not itself start with the
header: one filter pass on the write and one decompression hook on the read return the value. -/
theorem read_back (C : Codec) (thr : Nat) (v : Bytes) (hv : isFramed v = false) :
    decompressValue C (compressValue C thr v) = v := by
  rcases stored_is_original_or_frame C thr v with h | ⟨h, -⟩ <;> rw [h]
  · exact decompress_plain C v hv
  · exact decompress_frame C v

/-- **Resends are harmless** (F-13a): running the filter again on the same request, as every
MOVED/ASK resend does, leaves the value as the first pass left it. -/
theorem resend_idempotent (C : Codec) (thr : Nat) (v : Bytes) :
    compressValue C thr (compressValue C thr v) = compressValue C thr v := by
  rcases stored_is_original_or_frame C thr v with h | ⟨h, -⟩ <;> rw [h]
  · exact h
  · exact compressValue_frame C thr v

theorem iter_fixed {α : Type} {f : α → α} {x : α} (h : f x = x) (n : Nat) : iter f n x = x := by
  induction n with
  | zero => rfl
  | succ n ih => rw [iter, h, ih]

theorem iter_idem {α : Type} {f : α → α} (h : ∀ x, f (f x) = f x) (n : Nat) (x : α) : iter f (n + 1) x = f x := by
  induction n generalizing x with
  | zero => rfl
  | succ n ih => rw [iter, ih, h]

/-- **Any number of redirections, any number of reply hooks, compression switched off in
between or not**: after `k ≥ 0` filter passes at any thresholds … the value read back through
`j ≥ 1` decompression hooks is the value written. (Decompression does not depend on the enable
switch, so this also covers reading after compression has been switched off.) -/
theorem read_back_general (C : Codec) (thr : Nat) (v : Bytes) (hv : isFramed v = false) (k j : Nat) :
    iter (decompressValue C) (j + 1) (iter (compressValue C thr) k v) = v := by
  -- the first hook undoes the one effective pass, if there was one; the value is then a fixed point of the hooks
  have h1 : decompressValue C (iter (compressValue C thr) k v) = v := by
    cases k with
    | zero => exact decompress_plain C v hv
    | succ k => rw [iter_idem (resend_idempotent C thr)]; exact read_back C thr v hv
  rw [iter, h1]
  exact iter_fixed (decompress_plain C v hv) j

/-- **Commands disabled under compression are rejected locally** while compression is enabled. -/
theorem banned_rejected_locally (C : Codec) (thr : Nat) (cmd : Bytes) (args : List Bytes)
    (h : cmd ∈ Gen.Commands.bannedCmdsInCps) : filterDo C true thr cmd args = .rejected := by
  simp only [filterDo, Bool.not_true, Bool.false_eq_true, ↓reduceIte, List.contains_iff_mem.mpr h]

/-- tie: which commands carry values where (SET/GETSET/SETNX at 2; HSET/HMSET/HSETNX/PSETEX/SETEX
at 3; every second argument from there), and the guards the model mirrors -/
theorem positions_and_guards :
    valuePositions [115,101,116] 3 = [2] ∧                       -- set k v
    valuePositions [115,101,116,101,120] 4 = [3] ∧               -- setex k ttl v
    valuePositions [104,109,115,101,116] 6 = [3, 5] ∧            -- hmset k f v f v
    valuePositions [103,101,116] 2 = [] ∧                        -- get k : nothing
    Gen.Compress.hdrLen = hdr.length ∧
    Gen.Compress.thresholdGuard = "uint32(len(r.Text)) < cfg.Threshold" ∧
    Gen.Compress.framedSkipGuard = "bytes.HasPrefix(r.Text, cpsHdrs[cfg.Algorithm])" ∧
    Gen.Compress.notShorterGuard = "b.Len() >= len(src)" ∧
    Gen.Compress.decompressChecks.contains "!bytes.Equal(CRLF, src[len(cpsMagicNumber)+1:cpsHdrLen])" = true :=
  -- the last conjunct by membership, not by evaluating `contains`: the kernel is slow at comparing strings that differ
  ⟨by decide, by decide, by decide, by decide, rfl, rfl, rfl, rfl,
    List.contains_iff_mem.mpr (.tail _ (.tail _ (.tail _ (.head _))))⟩

/-! The identity codec satisfies the assumption; a value that gets framed exists
whenever the codec shrinks it by more than the header (checked on the real snappy by the harness) -/
def idCodec : Codec where
  comp v := v
  decomp s := some s
  roundtrip := by intro v; rfl

example : compressValue idCodec 4 [1,2,3,4,5,6,7,8] = [1,2,3,4,5,6,7,8] := by decide
example : isFramed [40, 80, 36, 0, 13, 88] = false := by decide     -- resembles a frame, is not one (F-13b)
example : isFramed [40, 80, 36, 0, 13, 10, 7] = true := by decide

/-- **The code the model was written against.** The statements of the modelled functions,
regenerated from the current source on every run, are the ones the model was written against;
any edit to one of them makes this obligation fail and starts a search for a failing input. -/
theorem code_matches_model :
    Gen.Filters.compressDo =
      ["if f.cfg == nil { return Continue }",
      "cfg := f.cfg.GetRedisOption().GetCompression()",
      "if cfg == nil { return Continue }",
      "if _, ok := wkSkipCheckCmdsInDecps[cmd]; !ok { req.RegisterHook(func(request *simpleRequest) { f.Decompress(request.resp) }) }",
      "if !cfg.Enable { return Continue }",
      "if _, ok := bannedCmdsInCps[cmd]; ok { errStr := fmt.Sprintf(\"ERR command '%s' is disabled in compress mode\", cmd) req.SetResponse(newError(errStr)) return Stop }",
      "f.Compress(cfg, cmd, req.body)",
      "return Continue"] ∧
    Gen.Filters.compressCompress =
      ["// get the offset of first value in resp array, there are two kind command: // 1) command key value // 2) command key field1 value1 [field2 value2]... // command key time value var offset int",
      "switch command { case \"set\", \"getset\", \"setnx\": offset = 2 case \"hset\", \"hmset\", \"hsetnx\", \"psetex\", \"setex\": offset = 3 default: return }",
      "for i := offset; i < len(resp.Array); i += 2 { r := resp.Array[i] if uint32(len(r.Text)) < cfg.Threshold { continue } if bytes.HasPrefix(r.Text, cpsHdrs[cfg.Algorithm]) { continue } r.Text = f.compress(r.Text, cfg.Algorithm) resp.Array[i] = r }"] ∧
    Gen.Filters.compressDecompress =
      ["switch resp.Type { case Integer, Error: return case Array: for idx, r := range resp.Array { f.Decompress(&r) resp.Array[idx] = r } default: if dst, err := f.decompress(resp.Text); err == nil { resp.Text = dst } }"] ∧
    Gen.Filters.compress =
      ["b := newBuffer()",
      "defer b.Close()",
      "w, err := compressor.NewWriter(algorithm.String(), b)",
      "if err != nil { return src }",
      "b.Write(cpsHdrs[algorithm])",
      "if _, err := w.Write(src); err != nil { w.Close() return src }",
      "w.Close()",
      "if b.Len() >= len(src) { return src }",
      "n := copy(src, b.Bytes())",
      "return src[:n]"] ∧
    Gen.Filters.decompress =
      ["if len(src) < cpsHdrLen { return nil, errMissingCpsHdr }",
      "if !bytes.Equal([]byte(cpsMagicNumber), src[:len(cpsMagicNumber)]) { return nil, errMissingCpsMagicNumber }",
      "algorithm, ok := redis.Compression_Algorithm_name[int32(src[len(cpsMagicNumber)])]",
      "if !ok { return nil, errInvalidCpsAlgorithm }",
      "if !bytes.Equal(CRLF, src[len(cpsMagicNumber)+1:cpsHdrLen]) { return nil, errMissingCpsHdr }",
      "br := newReader()",
      "defer br.Close()",
      "r, err := compressor.NewReader(algorithm, br)",
      "if err != nil { return nil, errUnsupportedCpsAlgorithm }",
      "br.Reset(src[cpsHdrLen:])",
      "b := newBuffer()",
      "defer b.Close()",
      "_, err = b.ReadFrom(r)",
      "if err != nil { return nil, err }",
      "dst := make([]byte, b.Len())",
      "copy(dst, b.Bytes())",
      "return dst, nil"] := by
  refine ⟨rfl, rfl, rfl, rfl, rfl⟩

end SamVerif.Props.C13

#print axioms SamVerif.Props.C13.stored_is_original_or_frame
#print axioms SamVerif.Props.C13.read_back
#print axioms SamVerif.Props.C13.resend_idempotent
#print axioms SamVerif.Props.C13.read_back_general
#print axioms SamVerif.Props.C13.banned_rejected_locally
#print axioms SamVerif.Props.C13.positions_and_guards
#print axioms SamVerif.Props.C13.code_matches_model
