/-
C18 — SCAN through the proxy visits every node once and terminates.

`Gen.Scan.parseCursor/genCursor/pastLastNode` are regenerated from request.go / handler.go
on every run; `Scan.request/reply/iterate` model newScanRequest + Convert + handleScan and
are tied to the real code by the differential run (real handleRequest on a socket-less
processor, scripted node replies).
-/
import SamVerif.Proofs.ScanIter
import SamVerif.Gen.ScanText
namespace SamVerif.Props.C18
open SamVerif SamVerif.Gen.Scan SamVerif.Resp SamVerif.Scan SamVerif.Proofs.Resp SamVerif.Proofs.Scan
open SamVerif.Proofs.ScanIter

/-- **Lossless cursor encoding**: for every node index and every node cursor below 2^48,
unpacking the packed cursor returns exactly (node index, node cursor). -/
theorem parse_gen (i : BitVec 16) (c : BitVec 64) (hc : c.toNat < 2^48) :
    parseCursor (genCursor i c) = (i, c) :=
  parseCursor_of_toNat _ i c hc (genCursor_toNat i c hc)

/-- **A cursor past the last node yields the terminating reply** (cursor "0", no keys),
not an error: for every number of nodes, every node index a cursor can carry (up to 65535, i.e. every cursor
up to 2^64 − 1) that is not below it, and every node cursor.  (Before the repair of F-18a the cursor was read as a
signed number and this held up to node index 32767 only: `SCAN 18446744073709551615` was answered "invalid cursor".) -/
theorem past_last_is_terminal (n i c : Nat) (hi : i ≤ 65535) (hc : c < 2^48) (h : n ≤ i) :
    (request n scanCmd [packed i c]).1 = .local respScanTerm := by
  rw [request_packed n _ i c [] hi hc, if_pos h]

/-- **MATCH / COUNT pass through**: whatever follows the cursor is forwarded unchanged, and
the cursor argument is replaced by the node's own cursor. -/
theorem args_pass_through (n i c : Nat) (more : List Bytes) (hn : n ≤ 32767) (hi : i < n) (hc : c < 2^48) :
    (request n scanCmd (packed i c :: more)).1 = .fwd i (scanCmd :: natDigits c :: more) := by
  rw [request_packed n _ i c more (by omega) hc, if_neg (Nat.not_le_of_gt hi)]

/-- **SCAN through the proxy terminates and covers every node once, in order.**
For any number of nodes up to 32767, if every node's own SCAN (a hypothesis: the Redis
guarantee, `Path`) reaches 0 from 0 after `k_j` calls returning `keys_j`, then a client
starting at cursor 0 and feeding each returned cursor back reaches cursor 0 after at
most `Σ k_j + 1` calls and is returned exactly `keys_0 ++ keys_1 ++ …` — every node
visited once, in host order, no key from anywhere else. -/
theorem scan_terminates_covers (nodes : List Node) (hlen : nodes.length ≤ 32767)
    (paths : List (List Bytes × Nat))
    (hp : AllPaths nodes paths)
    (fuel : Nat) (hf : (paths.map (·.2)).sum + 1 ≤ fuel) :
    (iterate nodes fuel [48]).2 = ((paths.map (·.1)).flatten, true) := by
  obtain ⟨e, rfl⟩ := Nat.exists_eq_add_of_le' hf
  have := iterate_suffix nodes (Nat.le_trans hlen (by decide)) hp [] rfl e
  simpa [(packed_eq_zero_iff 0 0).mpr ⟨rfl, rfl⟩] using this

/-- two scripted nodes: the first answers 0 → 7 → 0 with one key each, the second 0 → 0 -/
def node0 : Node := fun c => if c = 0 then some (7, [[97]]) else if c = 7 then some (0, [[98]]) else none
def node1 : Node := fun c => if c = 0 then some (0, [[99]]) else none

example : AllPaths [node0, node1] [([[97], [98]], 2), ([[99]], 1)] :=
  .cons (.more 0 7 [[97]] [[98]] 1 rfl (by decide) (by decide) (.last 7 [[98]] rfl))
    (.cons (.last 0 [[99]] rfl) .nil)

/-- **The code the model was written against.** The statements of the modelled functions,
regenerated from the current source on every run, are the ones the model was written against;
any edit to one of them makes this obligation fail and starts a search for a failing input. -/
theorem code_matches_model :
    Gen.ScanText.newScanRequest =
      ["body := raw.Body()",
      "if len(body.Array) < 2 { return nil, errors.New(invalidRequest) }",
      "cursor, err := parseScanCursor(body.Array[1].Text)",
      "if err != nil { return nil, errors.New(invalidCursor) }",
      "r := &scanRequest{raw: raw}",
      "r.nodeIdx, r.nodeCursor = r.parseCursor(cursor)",
      "return r, nil"] ∧
    Gen.ScanText.parseScanCursor =
      ["if cursor, err := strconv.ParseUint(string(b), 10, 64); err == nil { return cursor, nil }",
      "cursor, err := btoi64(b)",
      "return uint64(cursor), err"] ∧
    Gen.ScanText.convert =
      ["sreq = newSimpleRequest(r.raw.Body())",
      "sreq.RegisterHook(func(req *simpleRequest) { r.raw.SetResponse(req.Response()) })",
      "sreq.Body().Array[1].Text = []byte(strconv.FormatUint(r.nodeCursor, 10))",
      "sreq.RegisterHook(func(req *simpleRequest) { resp := req.Response() if resp.Type != Array || len(resp.Array) == 0 { return } nodeNextCursor, err := btoi64(resp.Array[0].Text) if err != nil { return } if nodeNextCursor == 0 { r.nodeIdx++ } nextCursor := r.genCursor(r.nodeIdx, uint64(nodeNextCursor)) resp.Array[0].Text = []byte(strconv.FormatUint(nextCursor, 10)) })",
      "return r.nodeIdx, sreq"] ∧
    Gen.ScanText.handleScan =
      ["scanReq, err := newScanRequest(req)",
      "if err != nil { req.SetResponse(newError(err.Error())) return }",
      "nodeIdx, simpleReq := scanReq.Convert()",
      "addrs := scanAddrs(u)",
      "if int(nodeIdx) >= len(addrs) { req.SetResponse(respScanTerm) return }",
      "u.MakeRequestToHost(addrs[nodeIdx], simpleReq)"] ∧
    Gen.ScanText.scanAddrs =
      ["var ( addrs []string seen = make(map[string]struct{}) )",
      "for i := range u.slots { inst := u.slots[i] if inst == nil { continue } if _, ok := seen[inst.Addr]; !ok { seen[inst.Addr] = struct{}{} addrs = append(addrs, inst.Addr) } }",
      "if len(addrs) == 0 { for _, h := range u.Hosts() { addrs = append(addrs, h.Addr) } return addrs }",
      "sort.Strings(addrs)",
      "return addrs"] := by
  refine ⟨rfl, rfl, rfl, rfl, rfl⟩

end SamVerif.Props.C18

#print axioms SamVerif.Props.C18.parse_gen
#print axioms SamVerif.Props.C18.past_last_is_terminal
#print axioms SamVerif.Props.C18.args_pass_through
#print axioms SamVerif.Props.C18.scan_terminates_covers
#print axioms SamVerif.Props.C18.code_matches_model
