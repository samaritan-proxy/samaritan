/-
C05 — TCP relay: bytes unmodified, in order, both ways, with half-close.

PARTIAL by nature: the substance of this property lives in io.CopyBuffer, net.TCPConn and the
kernel; the theorems cover the glue (two copy loops, half-close order, independence of the two
directions) for every chunking and every interleaving. The weight of the check is on the
differential run over real sockets.
-/
import SamVerif.Model.Relay
import SamVerif.Gen.Relay
import SamVerif.Proofs.Lts
namespace SamVerif.Props.C05
open SamVerif.Relay

/-- conservation: what was delivered plus what sits in the buffer is exactly the prefix of the
sent stream that has been read -/
def Dir.Inv (d : Dir) : Prop :=
  d.delivered ++ d.buf = d.sent.take d.pos ∧ d.pos ≤ d.sent.length ∧ (d.eof = true → d.delivered = d.sent ∧ d.srcClosed = true)

theorem dir_inv_init : Dir.Inv Dir.init := by simp [Dir.Inv, Dir.init]

/-- once end-of-stream is delivered nothing is left in the buffer: everything sent is delivered already -/
theorem Dir.Inv.buf_nil {d : Dir} (h : Dir.Inv d) (he : d.eof = true) : d.buf = [] := by
  obtain ⟨h1, -, h3⟩ := h
  have hl := List.length_take_le' d.pos d.sent
  rw [← h1, (h3 he).1, List.length_append] at hl
  exact List.eq_nil_of_length_eq_zero (Nat.le_zero.mp (Nat.le_of_add_le_add_left hl))

theorem dir_inv_step (d : Dir) (l : Label) (d' : Dir) (h : Dir.Inv d) (hs : d.step l = some d') : Dir.Inv d' := by
  obtain ⟨h1, h2, h3⟩ := h
  revert hs
  -- the enabled branches of `Dir.step`, in its order: send, close, read, write, fin
  fun_cases Dir.step d l <;> rintro ⟨⟩
  next data hc =>
    exact ⟨by rwa [List.take_append_of_le_length h2], by rw [List.length_append]; exact Nat.le_add_right_of_le h2,
      fun he => absurd (h3 he).2 hc⟩
  next => exact ⟨h1, h2, fun he => ⟨(h3 he).1, rfl⟩⟩
  next n hc =>
    obtain ⟨hb, -, -, hpn, he⟩ := hc
    rw [hb, List.append_nil] at h1
    exact ⟨by simp only [h1, List.take_add], hpn, fun he' => by simp [he] at he'⟩
  next hne => exact ⟨by rwa [List.append_nil], h2, fun he => absurd (Dir.Inv.buf_nil ⟨h1, h2, h3⟩ he) hne⟩
  next hc =>
    obtain ⟨hcl, hp, hb, -⟩ := hc
    refine ⟨h1, h2, fun _ => ⟨?_, hcl⟩⟩
    rwa [hb, List.append_nil, hp, List.take_length] at h1

def State.Inv (s : State) : Prop := Dir.Inv s.a2b ∧ Dir.Inv s.b2a

theorem isRun : Lts.IsRun (fun s (x : Bool × Label) => step s x.1 x.2) run :=
  ⟨fun _ => rfl, fun s x ls => by obtain ⟨d, l⟩ := x; rw [run]; cases step s d l <;> rfl⟩

theorem inv_step (s : State) (x : Bool × Label) (s' : State) (h : State.Inv s) (hs : step s x.1 x.2 = some s') :
    State.Inv s' := by
  unfold step at hs
  split at hs <;> obtain ⟨d', hd', rfl⟩ := Option.map_eq_some_iff.mp hs
  · exact ⟨dir_inv_step _ _ _ h.1 hd', h.2⟩
  · exact ⟨h.1, dir_inv_step _ _ _ h.2 hd'⟩

theorem inv_reach {sched : List (Bool × Label)} {s : State} (h : run State.init sched = some s) : State.Inv s :=
  isRun.inv inv_step ⟨dir_inv_init, dir_inv_init⟩ h

/-- **Relay correctness for every chunking and every interleaving.** After any schedule of
sends, half-closes and copy-loop steps of the two directions, each side has received exactly a
prefix of what the other side sent — nothing added, dropped, duplicated or reordered — and a
side that sees end-of-stream has received everything the other side sent before half-closing. -/
theorem relay_stream (sched : List (Bool × Label)) (s : State) (h : run State.init sched = some s) :
    (∃ k, s.a2b.delivered ++ s.a2b.buf = s.a2b.sent.take k) ∧
    (∃ k, s.b2a.delivered ++ s.b2a.buf = s.b2a.sent.take k) ∧
    (s.a2b.eof = true → s.a2b.delivered = s.a2b.sent) ∧
    (s.b2a.eof = true → s.b2a.delivered = s.b2a.sent) := by
  obtain ⟨⟨ha, -, hae⟩, hb, -, hbe⟩ := inv_reach h
  exact ⟨⟨_, ha⟩, ⟨_, hb⟩, fun he => (hae he).1, fun he => (hbe he).1⟩

/-- **The two directions are independent**: a step of one direction leaves the other direction
untouched, so one side finishing (or stalling) never disables or alters the opposite flow. -/
theorem half_close_independent (s s' : State) (l : Label) :
    (step s true l = some s' → s'.b2a = s.b2a) ∧ (step s false l = some s' → s'.a2b = s.a2b) := by
  constructor
  · intro h; simp only [step, ↓reduceIte, Option.map_eq_some_iff] at h; obtain ⟨d, -, rfl⟩ := h; rfl
  · intro h; simp only [step, Bool.false_eq_true, ↓reduceIte, Option.map_eq_some_iff] at h; obtain ⟨d, -, rfl⟩ := h; rfl

/-- **A finished sender is always drained**: while a direction whose sender has half-closed has
not yet delivered end-of-stream, some copy-loop step of that direction is enabled — whatever
state the other direction is in. (Each such step decreases `2·(unread) + |buffer ≠ ∅| + 1`, so
the direction completes after finitely many of its own steps.) -/
theorem finished_sender_progress (d : Dir) (h : Dir.Inv d) (hc : d.srcClosed = true) (he : d.eof = false) :
    (d.step .write).isSome ∨ (d.step .fin).isSome ∨ (d.step (.read (min bufSize (d.sent.length - d.pos)))).isSome := by
  by_cases hb : d.buf = []
  · by_cases hp : d.pos = d.sent.length
    · exact .inr (.inl (by simp [Dir.step.eq_def, hc, hp, hb, he]))
    · -- the chunk offered is as long as the buffer and the unread part allow, and not empty
      obtain ⟨-, h2, -⟩ := h
      refine .inr (.inr ?_)
      have hpos : 0 < min bufSize (d.sent.length - d.pos) :=
        Nat.lt_min.mpr ⟨by decide, Nat.sub_pos_of_lt (Nat.lt_of_le_of_ne h2 hp)⟩
      unfold Dir.step
      rw [if_pos ⟨hb, hpos, Nat.min_le_left .., Nat.add_le_of_le_sub' h2 (Nat.min_le_right ..), he⟩]
      rfl
  · exact .inl (by simp [Dir.step.eq_def, hb])

/-- the client sends 3 bytes in two reads and half-closes while the backend is still sending -/
example : (run State.init [(true, .send [1,2,3]), (false, .send [9]), (true, .read 2), (true, .close), (true, .write),
    (true, .read 1), (false, .read 1), (true, .write), (true, .fin), (false, .write)]).map
      (fun s => (s.a2b.delivered, s.a2b.eof, s.b2a.delivered, s.b2a.eof)) = some ([1,2,3], true, [9], false) := by decide

/-- **The code the model was written against.** The statements of the modelled functions,
regenerated from the current source on every run, are the ones the model was written against;
any edit to one of them makes this obligation fail and starts a search for a failing input. -/
theorem code_matches_model :
    Gen.Relay.handleConn =
      ["cconn := netutil.New(conn)",
      "cconn.SetReadTimeout(*p.cfg.IdleTimeout)",
      "healthyHosts := p.hostSet.Healthy()",
      "if len(healthyHosts) == 0 { p.Warnf(\"No available host\") return }",
      "host := p.lb.PickHost(healthyHosts)",
      "sconn, err := p.dial(host)",
      "if err != nil { p.Warnf(\"Dial to host[%s] failed: %v\", host, err) p.stats.Upstream.CxConnectFail.Inc() return }",
      "defer sconn.Close()",
      "host.IncConnCount()",
      "p.stats.Upstream.CxTotal.Inc()",
      "p.stats.Upstream.CxActive.Inc()",
      "defer func() { host.DecConnCount() p.stats.Upstream.CxDestroyTotal.Inc() p.stats.Upstream.CxActive.Dec() }()",
      "done := make(chan struct{})",
      "finished := make(chan struct{})",
      "defer close(finished)",
      "go func() { select { case <-host.WaitRemoved(): p.Infof(\"host: %s removed, conn will close...\", host.Addr) sconn.Close() cconn.Close() return case <-p.quit: sconn.Close() cconn.Close() return case <-finished: return } }()",
      "go func() { p.pipeConn(cconn, sconn) close(done) }()",
      "p.pipeConn(sconn, cconn)",
      "<-done"] ∧
    Gen.Relay.pipeConn =
      ["_, err := copyBuffer(dst, src, nil)",
      "if err == nil { err = errors.New(\"read EOF\") }",
      "p.Debugf(\"%s -> %s -> %s closed: %s\", src.RemoteAddr(), p.Address(), dst.RemoteAddr(), err)",
      "if err := closeWrite(dst); err != nil { dst.Close() }",
      "if err := closeRead(src); err != nil { src.Close() }"] ∧
    Gen.Relay.copyBuffer =
      ["if len(buf) != 0 { return io.CopyBuffer(dst, src, buf) }",
      "buf = getBuffer()",
      "written, err = io.CopyBuffer(dst, src, buf)",
      "putBuffer(buf)",
      "return"] ∧
    Gen.Relay.closeRead =
      ["if closer, ok := conn.(closeReader); ok { return closer.CloseRead() }",
      "return nil"] ∧
    Gen.Relay.closeWrite =
      ["if closer, ok := conn.(closeWriter); ok { return closer.CloseWrite() }",
      "return nil"] ∧
    Gen.Relay.dial =
      ["rawConn, err := dialTimeout(\"tcp\", host.Addr, *p.cfg.ConnectTimeout)",
      "if err != nil { if _, ok := err.(interface { Timeout() bool }); ok { p.stats.Upstream.CxConnectTimeout.Inc() } return nil, err }",
      "conn := netutil.New(rawConn)",
      "conn.SetReadTimeout(*p.cfg.IdleTimeout)",
      "stats := &netutil.Stats{ ReadTotal: p.stats.Upstream.CxRxBytesTotal, WriteTotal: p.stats.Upstream.CxTxBytesTotal, Duration: p.stats.Upstream.CxLengthSec, }",
      "conn.SetStats(stats)",
      "conn.SetInBytesCounter(host.ConnBytesInCounter())",
      "conn.SetOutBytesCounter(host.ConnBytesOutCounter())",
      "return conn, nil"] := by
  refine ⟨rfl, rfl, rfl, rfl, rfl, rfl⟩

end SamVerif.Props.C05

#print axioms SamVerif.Props.C05.relay_stream
#print axioms SamVerif.Props.C05.half_close_independent
#print axioms SamVerif.Props.C05.finished_sender_progress
#print axioms SamVerif.Props.C05.code_matches_model
