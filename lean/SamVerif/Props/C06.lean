/-
C06 — TCP: connections go only to current healthy hosts, per the balancing policy.

`HostSet.rrPick/randomPick/leastConnPick` model proc/internal/lb/lb.go; the candidate list
they index is `Healthy()` of the host set, characterised by C15's `usable_correct`.
`TcpConn.step` (`section conn`) models one relayed connection with its watcher: established connections to a
removed host, or of a stopping processor, are closed (F-09e, F-09f).
-/
import SamVerif.Props.C15
import SamVerif.Gen.Lb
import SamVerif.Gen.Relay
import SamVerif.Proofs.TcpConn
namespace SamVerif.Props.C06
open SamVerif.HostSet

/-- residues of `n * k` consecutive counter values: exactly `k` hit `r` -/
theorem count_window (n r : Nat) (hr : r < n) (k c : Nat) : ((List.range' c (n * k)).map (· % n)).count r = k := by
  induction c with
  | zero =>
    induction k with
    | zero => rfl
    | succ k ih =>
      -- the last `n` values are `n * k + j` for `j < n`: their residues are `range n`, in which `r` occurs once
      rw [Nat.mul_succ, ← List.range'_append_1, List.map_append, List.count_append, ih, List.range'_eq_map_range, List.map_map,
        Nat.zero_add, Function.comp_def,
        List.map_congr_left (g := id) fun j hj => (Nat.mul_add_mod n k j).trans (Nat.mod_eq_of_lt (List.mem_range.mp hj)),
        List.map_id, List.count_range, if_pos hr]
  | succ c ih =>
    -- the window at `c + 1` is the window at `c` without its first residue `c % n` and with `(c + n * k) % n` at the end
    have h : ((List.range' c (n * k + 1)).map (· % n)).count r = _ := List.count_cons
    rw [List.range'_1_concat, List.map_append, List.count_append, List.map_singleton, List.count_singleton,
      Nat.add_mul_mod_self_left, ih] at h
    exact (Nat.add_right_cancel h).symm

/-- **Round robin is exactly fair.** For every host count `n > 0`, every starting counter
value and every `k`: among `n·k` consecutive selections each of the `n` (unchanged) hosts is
selected exactly `k` times. Concurrent accepts obtain distinct consecutive counter values from
the atomic increment, so the statement covers every interleaving. -/
theorem rr_fair (n : Nat) (hn : 0 < n) (r : Nat) (hr : r < n) : ∀ (k start : Nat),
    ((List.range (n * k)).map (fun j => rrPick (start + j) n)).count r = k := by
  intro k start
  have := count_window n r hr k (start + 1)
  rw [List.range'_eq_map_range, List.map_map] at this
  simp only [rrPick, Nat.add_right_comm start _ 1]
  exact this

/-- **Random only picks members of the candidate list.** -/
theorem random_member (r n : Nat) (hn : 0 < n) : randomPick r n < n := Nat.mod_lt _ hn

/-- **Round robin only picks members of the candidate list.** -/
theorem rr_member (c n : Nat) (hn : 0 < n) : rrPick c n < n := Nat.mod_lt _ hn

/-- **Least connection only picks members of the candidate list.** -/
theorem leastconn_member (r1 r2 : Nat) (conns : List Nat) (hn : 0 < conns.length) :
    leastConnPick r1 r2 conns < conns.length := by
  unfold leastConnPick
  simp only
  split <;> exact Nat.mod_lt _ hn

/-- **Least connection never picks the strictly busier of its two samples.** -/
theorem leastconn_not_busier (r1 r2 : Nat) (conns : List Nat) :
    conns.getD (leastConnPick r1 r2 conns) 0 ≤ conns.getD (r1 % conns.length) 0 ∧
    conns.getD (leastConnPick r1 r2 conns) 0 ≤ conns.getD (r2 % conns.length) 0 := by
  unfold leastConnPick
  simp only
  split
  · next h => exact ⟨Nat.le_refl _, Nat.le_of_lt h⟩
  · next h => exact ⟨Nat.le_of_not_lt h, Nat.le_refl _⟩

/-- **Only current healthy members of the preferred tier are candidates**: the list the
balancers index is `Healthy()`, which after every history equals the members flagged healthy in
the preferred tier (C15); an index below its length therefore denotes such a host, and with an
empty list there is nothing to pick (the client connection is closed). -/
theorem pick_from_usable (attr : Nat → Nat × Bool) (ops : List C15.Op)
    (hw : ∀ op ∈ ops, ∀ o ∈ C15.objsOf op, Proofs.HostSet.WF attr o) (idx : Nat)
    (hidx : idx < (healthy (C15.run init ops)).length) :
    (healthy (C15.run init ops))[idx] ∈ usableSpec (C15.run init ops) := by
  have := C15.usable_correct attr ops hw
  rw [← this]
  exact List.getElem_mem hidx

/-- tie to the source: the balancers index the candidate list with the expressions the model
assumes (the incremented counter modulo the length; random number modulo the length; two samples,
the first returned only if strictly less busy). -/
theorem balancer_shapes :
    Gen.Lb.rrIndex = ["rrb.index.Inc() % uint64(len(hosts))"] ∧
    Gen.Lb.randomIndex = ["randInt() % len(hosts)"] ∧
    Gen.Lb.leastConnIndex = ["randInt() % len(hosts)", "randInt() % len(hosts)"] ∧
    Gen.Lb.leastConnChoice = "host1.ConnCount() < host2.ConnCount() => return host1" := ⟨rfl, rfl, rfl, rfl⟩

example : (List.range 6).map (fun j => rrPick (4 + j) 3) = [2, 0, 1, 2, 0, 1] := by decide
example : leastConnPick 0 1 [5, 2, 9] = 1 := by decide

section conn
open SamVerif.TcpConn

/-- **With no usable host (or a failed dial) the client connection is closed**, and nothing is
counted for any host. -/
theorem no_host_closes_client (pre : List Label) (t t' : T) (h : run {} pre = some t)
    (usable dialOk : Bool) (hno : ¬ (usable = true ∧ dialOk = true)) (hs : step t (.start usable dialOk) = some t') :
    t'.phase = .returned ∧ t'.cOpen = false ∧ t'.sOpen = false ∧ t'.count = 0 := by
  have hp : t'.phase = .returned := by
    rw [step, if_neg hno, Option.ite_none_right_eq_some] at hs
    exact Option.some.inj hs.2 ▸ rfl
  exact ⟨hp, (inv_step t _ t' (inv_reach h) hs).returned hp⟩

/-- **A connection counts for its host exactly while it is relayed** — after every history. -/
theorem counted_while_relayed (ls : List Label) (t : T) (h : run {} ls = some t) :
    t.count = if t.phase = .relaying then 1 else 0 := (inv_reach h).counted

/-- **Established connections to a removed host are closed** (and those of a stopping processor):
once the picked host's removal latch is closed, let the connection's own goroutines run in any
order — the two copy loops, the watcher, HandleConn's return; peers may do what they like
before.  Every such schedule has at most `mu t ≤ 4` steps, and when none of them can move any
more HandleConn has returned, both sockets are closed, the host's count is back and the watcher
goroutine is gone. -/
theorem removal_closes_connection (pre : List Label) (t : T) (h : run {} pre = some t)
    (he : t.phase ≠ .selecting) (hg : t.latch = true ∨ t.quit = true)
    (ls : List Label) (hint : ∀ l ∈ ls, internal l = true) (t' : T) (hr : run t ls = some t') :
    ls.length ≤ mu t ∧
    ((∀ l, internal l = true → step t' l = none) →
      t'.phase = .returned ∧ t'.cOpen = false ∧ t'.sOpen = false ∧ t'.count = 0 ∧ t'.watcher ≠ .armed) := by
  obtain ⟨hm, hi', _, hdone⟩ := TcpConn.isRun.completes (A := fun l => internal l = true)
    (Done := fun t => t.phase = .returned ∧ t.watcher ≠ .armed)
    inv_step (fun t l t' hl _ hd hs => ⟨doomed_stays t l t' hd hs, internal_decreases t l t' hl hs⟩)
    (fun t hi hd hn => progress t hi hd.1 hd.2 hn) hint (inv_reach h) ⟨he, hg⟩ hr
  refine ⟨hm, fun hstuck => ?_⟩
  have hd := hdone hstuck
  have hr := hi'.returned hd.1
  exact ⟨hd.1, hr.1, hr.2.1, hr.2.2, hd.2⟩

/-- a relayed connection whose host is removed while the client → backend loop has
already ended; the watcher fires, the other loop breaks, HandleConn returns -/
example : ∃ t, run {} [.start true true, .peerEnds true, .hostRemoved, .watcherFire, .loopBreaks false, .ret] = some t
    ∧ t.phase = .returned ∧ t.count = 0 ∧ t.cOpen = false := ⟨_, rfl, by decide⟩

end conn

/-- **The code the model was written against.** -/
theorem code_matches_model :
    Gen.Relay.handleConn =
      ["cconn := netutil.New(conn)",
      "cconn.SetReadTimeout(*p.cfg.IdleTimeout)",
      "healthyHosts := p.hostSet.Healthy()",
      "if len(healthyHosts) == 0 { p.Warnf(\"No available host\") return }",
      "host := p.lb.PickHost(healthyHosts)",
      "sconn, err := p.dial(host)",
      "if err != nil { p.Warnf(\"Dial to host[%s] failed: %v\", host, err) p.stats.Upstream.CxConnectFail.Inc() return }",
      "defer sconn.Close()",
      "host.IncConnCount()",
      "p.stats.Upstream.CxTotal.Inc()",
      "p.stats.Upstream.CxActive.Inc()",
      "defer func() { host.DecConnCount() p.stats.Upstream.CxDestroyTotal.Inc() p.stats.Upstream.CxActive.Dec() }()",
      "done := make(chan struct{})",
      "finished := make(chan struct{})",
      "defer close(finished)",
      "go func() { select { case <-host.WaitRemoved(): p.Infof(\"host: %s removed, conn will close...\", host.Addr) sconn.Close() cconn.Close() return case <-p.quit: sconn.Close() cconn.Close() return case <-finished: return } }()",
      "go func() { p.pipeConn(cconn, sconn) close(done) }()",
      "p.pipeConn(sconn, cconn)",
      "<-done"] := rfl

end SamVerif.Props.C06

#print axioms SamVerif.Props.C06.rr_fair
#print axioms SamVerif.Props.C06.random_member
#print axioms SamVerif.Props.C06.leastconn_member
#print axioms SamVerif.Props.C06.leastconn_not_busier
#print axioms SamVerif.Props.C06.pick_from_usable
#print axioms SamVerif.Props.C06.balancer_shapes
#print axioms SamVerif.Props.C06.code_matches_model
#print axioms SamVerif.Props.C06.no_host_closes_client
#print axioms SamVerif.Props.C06.counted_while_relayed
#print axioms SamVerif.Props.C06.removal_closes_connection
