/-
C14 — only supported commands reach backends; writes only reach masters.

`Gen.Commands` (the command tables, the read-only set, how findHandler normalises names) is
regenerated from handler.go / redis.go on every run. `Dispatch.dispatch/candidates` model
handleRequest + handlers + chooseHost and are tied by the differential run through the real
request path. `Spec.RedisFlags.neverModify` is the hand-written list of commands Redis flags
read-only.
-/
import SamVerif.Model.Dispatch
import SamVerif.Spec.RedisFlags
import SamVerif.Gen.Upstream
import SamVerif.Gen.ScanText
import SamVerif.Model.ScanWalk
namespace SamVerif.Props.C14
open SamVerif SamVerif.Dispatch

/-- **The proxy's read-only set is sound**: every command it may send to a replica is one
Redis itself flags as never modifying data. (F-14a/b: `geoadd` and `sort` used to be in it.)
Evaluated over the two tables: `readOnlyCommands` as regenerated from handler.go against the
hand-written `Spec.RedisFlags.neverModify`. -/
theorem readonly_sound : ∀ c ∈ Gen.Commands.readOnlyCommands, c ∈ Spec.RedisFlags.neverModify := by
  decide +kernel

/-- **Writes only reach masters**: a forwarded command that can modify data is sent to the
master owning the key's slot under every read strategy, whatever the number of replicas. -/
theorem write_goes_to_master (s : Strategy) (child : Bytes) (nReplicas : Nat)
    (h : Spec.RedisFlags.canModify (asciiLower child) = true) :
    candidates s (isReadOnly child) nReplicas = [.M] := by
  have hro : isReadOnly child = false := by
    rw [Bool.eq_false_iff]
    intro hc
    rw [Spec.RedisFlags.canModify, List.contains_iff_mem.mpr (readonly_sound _ (List.contains_iff_mem.mp hc))] at h
    exact nomatch h
  simp [candidates.eq_def, hro]

/-- **Replicas only when the strategy permits**: under MASTER nothing ever goes to a replica. -/
theorem master_strategy_only_master (ro : Bool) (n : Nat) : candidates .master ro n = [.M] := by
  cases ro <;> rfl

/-- under REPLICA with at least one replica the candidate list contains no master -/
theorem replica_strategy (n : Nat) (hn : 0 < n) : ∀ r ∈ candidates .replica true n, r = .R := by
  have : n ≠ 0 := Nat.ne_of_gt hn
  simp [candidates.eq_def, this]

/-- the candidate list is never empty -/
theorem candidates_nonempty (s : Strategy) (ro : Bool) (n : Nat) : candidates s ro n ≠ [] := by
  have key (c : List Role) : (if c.isEmpty then [Role.M] else c) ≠ [] := by cases c <;> simp
  unfold candidates
  cases ro
  · simp
  · exact key _

/-- **Unsupported names are rejected locally**: a name that is not in the supported set after
ASCII lower-casing — whatever its bytes and letter case — is answered with an error and
nothing is forwarded, for every argument count. -/
theorem unsupported_rejected (name : Bytes) (n : Nat) (h : handlerOf (asciiLower name) = none) :
    dispatch name n = .unsupported ∨ dispatch name n = .invalid := by
  unfold dispatch
  by_cases h0 : n = 0
  · right; simp [h0]
  · left; simp [h0, h]

theorem asciiLower_idem (b : Bytes) : asciiLower (asciiLower b) = asciiLower b := by
  unfold asciiLower
  rw [List.map_map]
  refine List.map_congr_left fun c _ => ?_
  dsimp only [Function.comp]
  by_cases h : 65 ≤ c ∧ c ≤ 90
  · -- an upper-case letter plus 32 is no upper-case letter
    simp only [if_pos h]
    rw [if_neg]
    simp only [UInt8.le_iff_toNat_le, UInt8.toNat_add, UInt8.reduceToNat, Nat.reducePow] at h ⊢
    omega
  · simp only [if_neg h]

/-- **Letter case does not matter** for whether and how a command is handled. -/
theorem case_insensitive (name : Bytes) :
    handlerOf (asciiLower (asciiLower name)) = handlerOf (asciiLower name) := by
  rw [asciiLower_idem]

/-- **Commands answered by the proxy itself**: PING, QUIT, SELECT, INFO, TIME, HOTKEY
(lower-case names looked up in the regenerated handler tables of `Gen.Commands`). -/
theorem local_commands :
    handlerOf [112,105,110,103] = some .ping ∧ handlerOf [113,117,105,116] = some .quit ∧
    handlerOf [115,101,108,101,99,116] = some .select ∧ handlerOf [105,110,102,111] = some .info ∧
    handlerOf [116,105,109,101] = some .time ∧ handlerOf [104,111,116,107,101,121] = some .hotkey := by
  decide +kernel

theorem local_never_forwards (name : Bytes) (n : Nat) (k : Kind)
    (hk : handlerOf (asciiLower name) = some k)
    (hl : k = .ping ∨ k = .quit ∨ k = .select ∨ k = .info ∨ k = .time ∨ k = .hotkey) (hn : 0 < n) :
    dispatch name n = .answered k := by
  unfold dispatch
  rw [if_neg (Nat.ne_of_gt hn), hk]
  rcases hl with h | h | h | h | h | h <;> subst h <;> rfl

/-- KEYS, MULTI, EXEC, SUBSCRIBE, CLUSTER, FLUSHALL, BLPOP, BRPOP … are not supported: none of
these names is in any of the regenerated handler tables. -/
theorem well_known_unsupported :
    handlerOf [107,101,121,115] = none ∧ handlerOf [109,117,108,116,105] = none ∧
    handlerOf [101,120,101,99] = none ∧ handlerOf [115,117,98,115,99,114,105,98,101] = none ∧
    handlerOf [99,108,117,115,116,101,114] = none ∧ handlerOf [102,108,117,115,104,97,108,108] = none ∧
    handlerOf [98,108,112,111,112] = none ∧ handlerOf [98,114,112,111,112] = none := by
  decide +kernel

/-- Children of split requests carry supported names (the request's own name, `set`, `get`):
`set` and `get` looked up in the regenerated handler tables and the read-only set. -/
theorem mset_mget_children_supported :
    handlerOf setName = some .simple ∧ handlerOf getName = some .simple ∧
    isReadOnly setName = false ∧ isReadOnly getName = true := by decide +kernel

/-- findHandler normalises names with the ASCII-only lower-casing (F-14c: it used
`strings.ToLower`, under which "HKEYS" found the hkeys handler). -/
theorem normaliser_is_ascii : Gen.Commands.findHandlerNormaliser = "asciiLower" := rfl

example : dispatch [77,83,69,84] 5 = .forward [(setName, 1), (setName, 3)] := by decide +kernel   -- MSET k v k v
example : Spec.RedisFlags.canModify [115,111,114,116] = true := by decide +kernel      -- sort
example : candidates .both true 2 = [.M, .R, .R] := by decide

/-- **The code the model was written against.** The statements of the modelled functions,
regenerated from the current source on every run, are the ones the model was written against;
any edit to one of them makes this obligation fail and starts a search for a failing input. -/
theorem code_matches_model :
    Gen.Upstream.chooseHost =
      ["hash := crc16(hashtag(routingKey))",
      "inst := u.slots[hash&(slotNum-1)]",
      "if inst == nil { return u.randomHost() }",
      "if !req.IsReadOnly() { return inst.Addr, nil }",
      "// read-only requests var candidates []string",
      "readStrategy := redis.ReadStrategy_MASTER",
      "if option := u.cfg.GetRedisOption(); option != nil { readStrategy = option.ReadStrategy }",
      "switch readStrategy { case redis.ReadStrategy_MASTER: candidates = append(candidates, inst.Addr) case redis.ReadStrategy_BOTH: candidates = append(candidates, inst.Addr) fallthrough case redis.ReadStrategy_REPLICA: for _, replica := range inst.Replicas { candidates = append(candidates, replica.Addr) } }",
      "if len(candidates) == 0 { candidates = append(candidates, inst.Addr) }",
      "i := 0",
      "l := len(candidates)",
      "if l > 1 { i = int(time.Now().UnixNano()) % l }",
      "return candidates[i], nil"] ∧
    Gen.Upstream.doSlotsRefresh =
      ["v := newArray( *newBulkString(\"cluster\"), *newBulkString(\"nodes\"), )",
      "req := newSimpleRequest(v)",
      "addr, err := u.randomHost()",
      "if err != nil { return err }",
      "giveUp := make(chan struct{})",
      "timer := time.NewTimer(slotsRefTimeout)",
      "defer timer.Stop()",
      "go func() { select { case <-req.done: return case <-u.quit: case <-timer.C: } close(giveUp) }()",
      "req.abort = giveUp",
      "u.MakeRequestToHost(addr, req)",
      "select { case <-req.done: case <-giveUp: select { case <-req.done: case <-u.quit: return errors.New(upstreamExited) default: return errors.New(\"no answer to cluster nodes from \" + addr) } }",
      "resp := req.Response()",
      "if resp.Type == Error { return errors.New(string(resp.Text)) }",
      "if resp.Type != BulkString { return errInvalidClusterNodes }",
      "insts, err := parseClusterNodes(string(resp.Text))",
      "if err != nil { return err }",
      "for _, inst := range insts { for _, slot := range inst.Slots { if slot < 0 || slot >= slotNum { continue } u.slots[slot] = inst } }",
      "return nil"] := by
  refine ⟨rfl, rfl⟩

/-- **The code the model was written against.** The statements of the modelled functions,
regenerated from the current source on every run, are the ones the model was written against;
any edit to one of them makes this obligation fail and starts a search for a failing input. -/
theorem scan_walk_matches_model :
    Gen.ScanText.handleScan =
      ["scanReq, err := newScanRequest(req)",
      "if err != nil { req.SetResponse(newError(err.Error())) return }",
      "nodeIdx, simpleReq := scanReq.Convert()",
      "addrs := scanAddrs(u)",
      "if int(nodeIdx) >= len(addrs) { req.SetResponse(respScanTerm) return }",
      "u.MakeRequestToHost(addrs[nodeIdx], simpleReq)"] ∧
    Gen.ScanText.scanAddrs =
      ["var ( addrs []string seen = make(map[string]struct{}) )",
      "for i := range u.slots { inst := u.slots[i] if inst == nil { continue } if _, ok := seen[inst.Addr]; !ok { seen[inst.Addr] = struct{}{} addrs = append(addrs, inst.Addr) } }",
      "if len(addrs) == 0 { for _, h := range u.Hosts() { addrs = append(addrs, h.Addr) } return addrs }",
      "sort.Strings(addrs)",
      "return addrs"] := by
  refine ⟨rfl, rfl⟩

end SamVerif.Props.C14

namespace SamVerif.Props.C14s
open SamVerif.ScanWalk

/-- **SCAN is sent to masters only, and to every master** (under every read strategy): once the routing table knows any slot, the
nodes a SCAN iteration walks over are exactly the masters of the table — no replica, no configured host that owns nothing, and no
master left out (so every key is met once). -/
theorem scan_walks_exactly_the_masters (table : List (Option Nat)) (hosts : List Nat) (h : ∃ m, some m ∈ table) (a : Nat) :
    a ∈ scanAddrs table hosts ↔ some a ∈ table := by
  obtain ⟨m, hm⟩ := h
  have hne : ((table.filterMap id).eraseDups).isEmpty = false := by
    rw [List.isEmpty_eq_false_iff]
    exact List.ne_nil_of_mem (List.mem_eraseDups.mpr (List.mem_filterMap.mpr ⟨some m, hm, rfl⟩))
  -- sorting, removing duplicates and dropping the `none`s change no membership
  simp only [scanAddrs, hne, Bool.false_eq_true, if_false, List.mem_mergeSort, List.mem_eraseDups, List.mem_filterMap, id,
    exists_eq_right]

/-- with no slot known the walk falls back to the configured hosts -/
theorem scan_falls_back_to_hosts (table : List (Option Nat)) (hosts : List Nat) (h : ∀ m, some m ∉ table) :
    scanAddrs table hosts = hosts := by
  have : (table.filterMap id) = [] := by
    rw [List.filterMap_eq_nil_iff]
    intro x hx
    cases x with
    | none => rfl
    | some m => exact absurd hx (h m)
  simp [scanAddrs, this]

/-- the hypothesis is met by any table that knows a slot; a replica (9) among the configured hosts is not walked -/
example : 9 ∉ scanAddrs [some 7, none, some 3, some 7] [1, 2, 3, 7, 9] := by
  rw [scan_walks_exactly_the_masters _ _ ⟨7, by simp⟩]; simp

end SamVerif.Props.C14s

#print axioms SamVerif.Props.C14.readonly_sound
#print axioms SamVerif.Props.C14.write_goes_to_master
#print axioms SamVerif.Props.C14.master_strategy_only_master
#print axioms SamVerif.Props.C14.replica_strategy
#print axioms SamVerif.Props.C14.unsupported_rejected
#print axioms SamVerif.Props.C14.case_insensitive
#print axioms SamVerif.Props.C14.local_commands
#print axioms SamVerif.Props.C14.local_never_forwards
#print axioms SamVerif.Props.C14.well_known_unsupported
#print axioms SamVerif.Props.C14.normaliser_is_ascii
#print axioms SamVerif.Props.C14.code_matches_model
#print axioms SamVerif.Props.C14.scan_walk_matches_model
#print axioms SamVerif.Props.C14s.scan_walks_exactly_the_masters
#print axioms SamVerif.Props.C14s.scan_falls_back_to_hosts
