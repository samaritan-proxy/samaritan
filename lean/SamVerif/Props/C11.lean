/-
C11 — no byte sequence from a client or a backend can crash or wedge the proxy.

The decoder (`Resp.decode`, over any byte source), the redirection/CLUSTERDOWN handling, the
CLUSTER NODES parser and the SCAN reply hook as total functions with explicit `panic`/`lost`
outcomes; the theorems say these outcomes are unreachable for every input, that nesting is bounded by
the declared limit and that a slot range expands within the slot space (the limits on array and bulk
lengths are guards of `Resp.decode`, exercised by the check's runs). The `…Old` definitions keep the
behaviour before the repairs (fix: commits 076555e ae4a17a 09a957a 0fae0c7 5d3ee76 38daed4
ac4b7d3) as counterexample theorems. What a Lean model cannot exhibit — that the Go runtime
survives that depth and allocation — is observed by the child-process runs of the check.
-/
import SamVerif.Model.Parsers
import SamVerif.Model.Scan
import SamVerif.Proofs.Resp
namespace SamVerif.Props.C11
open SamVerif SamVerif.Resp SamVerif.Parsers SamVerif.Proofs.Resp

theorem ite_of {α : Type} (p : α → Prop) {c : Prop} [Decidable c] {a b : α} (ha : p a) (hb : p b) :
    p (if c then a else b) := by
  split <;> assumption

theorem bind_of {α β : Type} {x : Option α} {k : α → Option β} {w : β} {Q : Prop}
    (h : ∀ a, x = some a → k a = some w → Q) : x.bind k = some w → Q := by
  cases x with
  | none => nofun
  | some a => exact h a rfl

theorem typed_of {σ α : Type} {S : Src σ} {dec : σ → Option (α × σ)} {mk : α → Resp} {st st' : σ} {v : Resp}
    {Q : Resp → Prop} (h : ∀ x, Q (mk x)) : typed S dec mk st = some (v, st') → Q v :=
  bind_of fun _ _ => bind_of fun q _ e => by cases e; exact h q.1

theorem decodeN_depth {σ : Type} (dec : σ → Option (Resp × σ)) (bound : Nat)
    (hdec : ∀ st v st', dec st = some (v, st') → depth v ≤ bound) :
    ∀ (k : Nat) (st : σ) (vs : List Resp) (st' : σ), decodeN dec k st = some (vs, st') → depthList vs ≤ bound
  | 0, _, _, _ => fun h => by cases h; exact Nat.zero_le _
  | k + 1, _, _, _ => bind_of fun _ h1 => bind_of fun _ h2 h => by
    cases h
    exact Nat.max_le.mpr ⟨hdec _ _ _ h1, decodeN_depth dec bound hdec k _ _ _ h2⟩

theorem decodeN_length {σ : Type} (dec : σ → Option (Resp × σ)) :
    ∀ (k : Nat) (st : σ) (vs : List Resp) (st' : σ), decodeN dec k st = some (vs, st') → vs.length = k
  | 0, _, _, _ => fun h => by cases h; rfl
  | k + 1, _, _, _ => bind_of fun _ _ => bind_of fun _ h2 h => by
    cases h
    exact congrArg (· + 1) (decodeN_length dec k _ _ _ h2)

/-- **Nesting is bounded by the fuel (= the declared depth limit + 1) for every byte source and
every input**: whatever bytes arrive, in whatever chunks, a decoded value never nests deeper. -/
theorem decode_depth_le {σ : Type} (S : Src σ) : ∀ (fuel : Nat) (st : σ) (v : Resp) (st' : σ),
    decode S fuel st = some (v, st') → depth v ≤ fuel
  | 0, _, _, _ => nofun
  | f + 1, st, v, st' => by
    rw [decode_succ]
    refine bind_of fun p _ => ?_
    let P (o : Option (Resp × σ)) : Prop := o = some (v, st') → depth v ≤ f + 1
    have scalar {α : Type} {dec : σ → Option (α × σ)} {mk : α → Resp} (h : ∀ x, depth (mk x) = 0) : P (typed S dec mk p.2) :=
      typed_of (Q := fun v => depth v ≤ f + 1) fun x => h x ▸ Nat.zero_le _
    refine ite_of P (scalar fun _ => rfl) <| ite_of P (scalar fun _ => rfl) <| ite_of P (scalar fun _ => rfl) <|
      ite_of P (scalar fun _ => rfl) <| ite_of P ?_ ?_
    · -- an array: its members are decoded with fuel `f`
      exact bind_of fun _ _ => bind_of fun r _ => ite_of P nofun <| ite_of P nofun <|
        ite_of P (fun h => by cases h; exact Nat.zero_le _) <| bind_of fun q hq h => by
          cases h; exact Nat.succ_le_succ (decodeN_depth _ f (decode_depth_le S f) _ _ _ _ hq)
    · -- an inline command: an array of bulk strings, depth 1
      exact bind_of fun _ _ => ite_of P nofun fun h => by
        cases h; simp only [depth, depthList_bulks]; omega

/-- for the stream source in particular: never deeper than the declared limit + 1 -/
theorem decodeStream_depth (sz : Nat) (data : Bytes) (v : Resp) (rest : Bytes)
    (h : decodeStream sz data = some (v, rest)) : depth v ≤ maxArrayDepth + 1 := by
  unfold decodeStream at h
  split at h
  · cases h
  · rename_i hd
    cases h
    exact decode_depth_le streamSrc _ _ _ _ hd

/-- **Every backend error text leaves the request answered or resent** — never a panic, never a
request that is neither: for all byte strings, with or without the Unicode case-folding corner. -/
theorem handleError_safe (text : Bytes) (foldsOnly : Bool) :
    handleError text foldsOnly ≠ .panic ∧ handleError text foldsOnly ≠ .lost := by
  unfold handleError
  repeat' apply ite_of (fun o : RedirOut => o ≠ .panic ∧ o ≠ .lost)
  all_goals exact ⟨RedirOut.noConfusion, RedirOut.noConfusion⟩

/-- F-11a: `-MOVED 1` (no address) used to index past the end of the split error text. -/
theorem old_moved_without_address_panics :
    handleErrorOld [77, 79, 86, 69, 68, 32, 49] = .panic ∧ handleError [77, 79, 86, 69, 68, 32, 49] = .reply := by decide

/-- F-11g: a prefix that only case-folds to ASK used to leave the request unanswered forever. -/
theorem old_folding_prefix_loses_request :
    handleErrorOld [65, 0xc5, 0xbf, 107, 32, 49, 32, 104, 58, 49] true = .lost ∧
    handleError [65, 0xc5, 0xbf, 107, 32, 49, 32, 104, 58, 49] true = .reply := by decide

-- with `checked = true` the guard in front of the nil dereference is off, and `attach` is `.ok` by computation
theorem attach_checked_no_panic (insts : List (Bytes × Option Bytes × List Nat)) : attach true insts ≠ .panic := by
  nofun

/-- **No CLUSTER NODES reply crashes the parser**, whatever its lines and fields. -/
theorem parseClusterNodes_no_panic (lines : List Line) : parseClusterNodes lines ≠ .panic := by
  unfold parseClusterNodes
  cases parseLines true lines with
  | none => simp
  | some insts => exact attach_checked_no_panic insts

/-- every slot produced from a range lies in the slot space, so the expansion of one segment
allocates at most 16384 entries (F-11e: `0-9999999999` used to be expanded) -/
theorem parseSlots_range_bounded (a b : Bytes) (s e : Int) (ha : atoi a = some s) (hb : atoi b = some e)
    (slots : List Nat) (h : parseSlots true [a ++ [45] ++ b] = some slots)
    (hsplit : splitOn 45 (a ++ [45] ++ b) = [a, b]) : slots.length ≤ slotNum ∧ ∀ x ∈ slots, x < slotNum := by
  simp only [parseSlots, hsplit, ha, hb, Bool.true_and, Option.map_some, List.append_nil] at h
  split at h
  · cases h; simp  -- a segment in brackets (a migrating slot) yields no slots
  split at h
  · cases h
  · rename_i hc
    cases h
    simp only [Bool.or_eq_true, decide_eq_true_eq] at hc
    simp only [List.length_map, List.length_range, List.mem_map, List.mem_range, Int.lt_toNat]
    unfold slotNum at *
    exact ⟨Int.toNat_le.mpr (by omega), fun | _, ⟨i, hi, rfl⟩ => (Int.toNat_lt' (by decide)).mpr (by omega)⟩

/-- F-11b: a replica whose master is not listed used to dereference nil. -/
theorem old_unlisted_master_panics :
    -- "a h:1 slave b 0 0 1 c": a replica line naming master "b", which is not listed
    let line : Line := [[97], [104, 58, 49], [115], [98], [48], [48], [49], [99]]
    parseClusterNodesOld [line] = .panic ∧ parseClusterNodes [line] = .ok [] := by decide

/-- **No backend reply crashes the SCAN reply hook** (F-11c: `*0` used to). -/
theorem scan_reply_no_panic (idx : BitVec 16) (r : Resp) : Scan.reply idx r ≠ none := by
  unfold Scan.reply
  split
  · simp
  · extract_lets text
    split <;> exact Option.some_ne_none _
  · simp

end SamVerif.Props.C11

#print axioms SamVerif.Props.C11.decode_depth_le
#print axioms SamVerif.Props.C11.decodeStream_depth
#print axioms SamVerif.Props.C11.handleError_safe
#print axioms SamVerif.Props.C11.old_moved_without_address_panics
#print axioms SamVerif.Props.C11.old_folding_prefix_loses_request
#print axioms SamVerif.Props.C11.parseClusterNodes_no_panic
#print axioms SamVerif.Props.C11.parseSlots_range_bounded
#print axioms SamVerif.Props.C11.old_unlisted_master_panics
#print axioms SamVerif.Props.C11.scan_reply_no_panic
