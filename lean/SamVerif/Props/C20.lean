/-
C20 — connection and request statistics are conserved.

`Stats.cstep` models the listener's registry with the TCP processor's upstream connection
counters, `Stats.rstep` the Redis request counters (see Model/Stats.lean).  The moves of every
counter in the code, with their guards, are regenerated into `Gen.Stats` on every run and
compared here with what the model was written against (`code_moves_match_model`); the
behaviour is tied by the differential run (`c20.cx` through a real TCP processor and real
sockets, `c20.rq` through the real request path of a socket-less Redis processor), with the
counters read from the public stats store.

Model as repaired: `listener.Stop` settles the connections it takes out of the registry
(dd73cea); `stop_without_settling_breaks_conservation` keeps the witness of the defect.
-/
import SamVerif.Proofs.Stats
import SamVerif.Gen.Stats
namespace SamVerif.Props.C20
open SamVerif.Stats

/-- **Connection counters are conserved after every history**: for downstream and upstream
alike, total = destroyed + (connections in flight) and the gauge equals the number in flight,
after any sequence of accepts (under the limit, over the limit, after Stop, with no healthy
host, with a failing dial), closes, StopListen and Stop. -/
theorem conn_conserved (limit : Nat) (evs : List CEv) :
    let s := crun (cinit limit) evs
    s.ds.total = s.ds.destroyed + regSize s ∧ s.ds.active = (regSize s : Int) ∧
    s.us.total = s.us.destroyed + s.ups.length ∧ s.us.active = (s.ups.length : Int) :=
  let h := cinv_moves.run evs _ (cinv_init limit)
  ⟨h.ds.1, h.ds.2, h.us.1, h.us.2⟩

/-- **Gauges never wrap below zero.** -/
theorem gauges_never_negative (limit : Nat) (evs : List CEv) :
    0 ≤ (crun (cinit limit) evs).ds.active ∧ 0 ≤ (crun (cinit limit) evs).us.active := by
  obtain ⟨-, h1, -, h2⟩ := conn_conserved limit evs
  exact ⟨h1 ▸ Int.natCast_nonneg _, h2 ▸ Int.natCast_nonneg _⟩

/-- **At quiescence the books balance**: no connection in flight → both gauges are zero and
total = destroyed on both sides; whatever happened before, including a Stop with open
connections. -/
theorem conn_quiescent_balanced (limit : Nat) (evs : List CEv)
    (hq : (crun (cinit limit) evs).quiescent) :
    let s := crun (cinit limit) evs
    s.ds.active = 0 ∧ s.ds.total = s.ds.destroyed ∧ s.us.active = 0 ∧ s.us.total = s.us.destroyed := by
  have h := conn_conserved limit evs
  simp only [hq.1, hq.2, List.length_nil, Nat.add_zero] at h
  obtain ⟨h1, h2, h3, h4⟩ := h
  exact ⟨h2, h1, h4, h3⟩

/-- Stop leaves nothing registered. -/
theorem stop_clears_registry (s : CState) : regSize (cstep s .stop) = 0 := by
  unfold cstep
  cases hr : s.reg with
  | none => simp [regSize, hr]
  | some r => simp [regSize]

/-- after Stop nothing is ever registered again -/
theorem stopped_stays_empty (s : CState) (hs : s.reg = none) (evs : List CEv) :
    (crun s evs).reg = none :=
  stopped_moves.run evs s hs

/-- the registry never exceeds the connection limit -/
theorem limit_respected (limit : Nat) (hl : 0 < limit) (evs : List CEv) :
    regSize (crun (cinit limit) evs) ≤ limit :=
  ((linv_moves hl).run evs (cinit limit) ⟨rfl, Nat.zero_le _⟩).2

/-- `cstep` with Stop as before dd73cea: the registry is cleared and nothing is settled -/
def cstepOld (s : CState) : CEv → CState
  | .stop => { s with reg := none }
  | e => cstep s e

/-- The defect that was repaired (F-20a), kept as a theorem about the old behaviour: if Stop
only clears the registry, a history `accept; stop; finish` ends quiescent with the gauge still
raised and total ≠ destroyed. -/
theorem stop_without_settling_breaks_conservation :
    let s := [CEv.accept 0 true true, .stop, .finish 0].foldl cstepOld (cinit 0)
    s.quiescent ∧ s.ds.active = 1 ∧ s.ds.total = 1 ∧ s.ds.destroyed = 0 := by
  refine ⟨⟨by decide, by decide⟩, by decide, by decide, by decide⟩

/-- the same history under `cstep` -/
example :
    let s := crun (cinit 0) [CEv.accept 0 true true, .stop, .finish 0]
    s.quiescent ∧ s.ds.active = 0 ∧ s.ds.total = 1 ∧ s.ds.destroyed = 1 ∧ s.us.total = 1 ∧ s.us.destroyed = 1 := by
  refine ⟨⟨by decide, by decide⟩, by decide, by decide, by decide, by decide, by decide⟩

/-- a history with a rejection over the limit, a failed dial, no host and a stop
with an open connection reaches quiescence with non-trivial counters -/
example :
    let s := crun (cinit 1) [.accept 0 true true, .accept 1 true true, .finish 0, .accept 2 true false,
      .accept 3 false true, .accept 4 true true, .stop, .finish 4, .accept 5 true true]
    s.quiescent ∧ s.ds.total = 4 ∧ s.restricted = 1 ∧ s.connFail = 1 ∧ s.us.total = 2 := by
  refine ⟨⟨by decide, by decide⟩, by decide, by decide, by decide, by decide⟩

/-- **Request counters are conserved after every history**: downstream, upstream and per
command, total = success + failure + (what is still in flight), where an upstream request in
flight weighs as many times as it has been sent (every send counts a total and registers one
more completion hook — MOVED and ASK resends included). -/
theorem req_conserved (evs : List REv) :
    let s := rrun {} evs
    s.ds.total = s.ds.ok + s.ds.bad + s.raws.length ∧
    s.us.total = s.us.ok + s.us.bad + wsum (fun h => h) s.sims ∧
    ∀ c, (s.cmd c).total = (s.cmd c).ok + (s.cmd c).bad + wsum (cmdWeight c) s.raws :=
  let h := rinv_run evs _ rinv_init
  ⟨h.ds, h.us, h.cmd⟩

/-- **At quiescence**: total requests = successful + failed, downstream, upstream and for
every command. -/
theorem req_quiescent_balanced (evs : List REv) (hq : (rrun {} evs).quiescent) :
    let s := rrun {} evs
    s.ds.total = s.ds.ok + s.ds.bad ∧ s.us.total = s.us.ok + s.us.bad ∧
    ∀ c, (s.cmd c).total = (s.cmd c).ok + (s.cmd c).bad := by
  have h := req_conserved evs
  simp only [hq.1, hq.2, wsum, List.length_nil, Nat.add_zero] at h
  exact h

/-- GET redirected twice (MOVED, then ASK with its ASKING request) and answered,
then an MGET with one failing child -/
example :
    let s := rrun {} (evalScript false 0
      [some ⟨.single cGet, [[.moved, .ask, .reply]]⟩, some ⟨.mget, [[.reply], [.fail]]⟩, some ⟨.invalid, []⟩])
    s.quiescent ∧ s.ds = ⟨3, 2, 1⟩ ∧ s.us = ⟨6, 5, 1⟩ ∧ s.moved = 1 := by
  refine ⟨⟨by decide, by decide⟩, by decide, by decide, by decide⟩

/-- what is in flight: requests sent upstream (with their hooks) and raw requests.  Whether a history ends quiescent
depends on this part of the state alone, and an event moves it without looking at the counters. -/
abbrev Flight := List (Nat × Nat) × List (Nat × Option Nat)

def fstep (p : Flight) : REv → Flight
  | .rawNew id cmd => (p.1, (id, cmd) :: p.2)
  | .rawDone id _ => (p.1, match takeKey id p.2 with | some (_, l) => l | none => p.2)
  | .simSend id => (bump id p.1, p.2)
  | .simDone id _ => (match takeKey id p.1 with | some (_, l) => l | none => p.1, p.2)
  | .moved => p

def flight (s : RState) : Flight := (s.sims, s.raws)

theorem flight_rstep (s : RState) (e : REv) : flight (rstep s e) = fstep (flight s) e := by
  fun_cases rstep s e <;> simp_all [fstep.eq_def, flight]

theorem flight_rrun (evs : List REv) (s : RState) : flight (rrun s evs) = evs.foldl fstep (flight s) :=
  (List.foldl_hom flight fun s e => (flight_rstep s e).symm).symm

/-- a child that has been sent `h` times and is the only upstream request in flight is settled by its plan, whatever
the plan -/
theorem child_settles (sid : Nat) (plan : List Step) (fr : Nat) : ∀ (h : Nat) (r : List (Nat × Option Nat)), sid < fr →
    (evalChild sid plan fr).1.foldl fstep ([(sid, h)], r) = ([], r) := by
  fun_induction evalChild sid plan fr <;> intro h r hlt
  · simp [fstep, takeKey]
  · simp [fstep, takeKey]
  · simp [fstep, takeKey]
  · next ih => simpa [fstep, bump] using ih (h + 1) r hlt          -- moved: sent once more
  · simp [fstep, bump, takeKey]
  all_goals                                                       -- ask, askRefused: the ASKING request comes and goes
    next fr _ ih => simpa [fstep, bump, takeKey, Nat.ne_of_lt hlt] using ih (h + 1) r (Nat.lt_succ_of_lt hlt)

theorem children_settle (quit : Bool) (plans : List (List Step)) (fr : Nat) (r : List (Nat × Option Nat)) :
    (evalChildren quit fr plans).1.foldl fstep ([], r) = ([], r) := by
  induction plans generalizing fr with
  | nil => rfl
  | cons p ps ih =>
    have hc : (evalChildQ quit fr (fr + 1) p).1.foldl fstep ([(fr, 1)], r) = ([], r) := by
      unfold evalChildQ
      split
      · simp [fstep.eq_def, takeKey]
      · exact child_settles fr p (fr + 1) 1 r (Nat.lt_succ_self fr)
    simp only [evalChildren, List.foldl_cons, List.foldl_append, fstep.eq_def, bump, hc, ih]

theorem req_settles (quit : Bool) (fresh : Nat) (r : Req) :
    (evalReq quit fresh r).1.foldl fstep ([], []) = ([], []) := by
  unfold evalReq
  cases r.kind <;> simp [fstep, children_settle, takeKey]

theorem script_flight (script : List (Option Req)) (quit : Bool) (fresh : Nat) :
    (evalScript quit fresh script).foldl fstep ([], []) = ([], []) := by
  induction script generalizing quit fresh with
  | nil => rfl
  | cons o rest ih =>
    cases o with
    | none => exact ih true fresh
    | some r => rw [evalScript, List.foldl_append, req_settles, ih]

/-- **Every scripted history ends quiescent**: whatever the requests, their children's plans and
the point at which the upstream quits, once the script has run nothing is in flight — so by
`req_quiescent_balanced` the model's counters balance for every script the differential runs. -/
theorem script_quiescent : ∀ (script : List (Option Req)) (quit : Bool) (fresh : Nat) (s : RState),
    s.raws = [] → s.sims = [] → (rrun s (evalScript quit fresh script)).quiescent := by
  intro script quit fresh s hr hs
  have := flight_rrun (evalScript quit fresh script) s
  rw [flight, flight, hr, hs, script_flight] at this
  exact ⟨(Prod.mk.inj this).2, (Prod.mk.inj this).1⟩

/-- The counter moves of the code (regenerated from the working tree on every run) are the
ones the model was written against. -/
theorem code_moves_match_model :
    Gen.Stats.addConn =
      ["if l.conns == nil | return",
      "if l.connsLimit() | l.stats.CxRestricted.Inc",
      "if l.connsLimit() | return",
      "l.stats.CxTotal.Inc",
      "l.stats.CxActive.Inc"] ∧
    Gen.Stats.removeConn =
      ["if l.conns == nil | return",
      "if !ok | return",
      "l.stats.CxDestroyTotal.Inc",
      "l.stats.CxActive.Dec"] ∧
    Gen.Stats.listenerStop =
      ["range conns | l.stats.CxDestroyTotal.Inc",
      "range conns | l.stats.CxActive.Dec"] ∧
    Gen.Stats.handleRawConn =
      ["if !l.addConn(conn) | conn.Close",
      "if !l.addConn(conn) | return",
      "defer | conn.Close",
      "defer | l.removeConn",
      "if l.connHandleFn == nil | return",
      "l.connHandleFn"] ∧
    Gen.Stats.tcpHandleConn =
      ["if len(healthyHosts) == 0 | return",
      "if err != nil | p.stats.Upstream.CxConnectFail.Inc",
      "if err != nil | return",
      "p.stats.Upstream.CxTotal.Inc",
      "p.stats.Upstream.CxActive.Inc",
      "defer | p.stats.Upstream.CxDestroyTotal.Inc",
      "defer | p.stats.Upstream.CxActive.Dec",
      "go | select <-host.WaitRemoved() | return",
      "go | select <-p.quit | return",
      "go | select <-finished | return"] ∧
    Gen.Stats.handleRequest =
      ["p.stats.Downstream.RqTotal.Inc",
      "hook | case req.Response().Type = Error | p.stats.Downstream.RqFailureTotal.Inc",
      "hook | default of req.Response().Type | p.stats.Downstream.RqSuccessTotal.Inc",
      "if !req.IsValid() | return",
      "if !ok | return",
      "cmdStats.Total.Inc",
      "hook | case req.Response().Type = Error | cmdStats.Error.Inc",
      "hook | default of req.Response().Type | cmdStats.Success.Inc",
      "hook | if latency > p.cfg.slowReqThresholdInMicros | p.stats.Counter(\"rq_slow_total\").Inc"] ∧
    Gen.Stats.makeRequestToHost =
      ["range reqs | u.stats.RqTotal.Inc",
      "range reqs | req.RegisterHook",
      "range reqs | hook | if req.Response().Type == Error | u.stats.RqFailureTotal.Inc",
      "range reqs | hook | else of req.Response().Type == Error | u.stats.RqSuccessTotal.Inc",
      "func | range reqs | req.SetResponse",
      "select <-u.quit | return",
      "if err != nil | return",
      "c.Send"] ∧
    Gen.Stats.handleRedirection =
      ["if len(err) < 3 | req.SetResponse",
      "if len(err) < 3 | return",
      "case strings.ToLower(err[0]) = MOVED | u.stats.Counter(\"moved\").Inc",
      "case strings.ToLower(err[0]) = MOVED | u.MakeRequestToHost",
      "case strings.ToLower(err[0]) = ASK | u.MakeRequestToHost",
      "default of strings.ToLower(err[0]) | req.SetResponse",
      "default of strings.ToLower(err[0]) | return"] ∧
    Gen.Stats.rawSetResponse =
      ["r.finishedAt = time.Now()",
      "r.resp = v",
      "for i := len(r.hooks) - 1; i >= 0; i-- { hook := r.hooks[i] hook(r) }",
      "close(r.done)"] ∧
    Gen.Stats.simpleSetResponse =
      ["r.finishedAt = time.Now()",
      "r.resp = resp",
      "for i := len(r.hooks) - 1; i >= 0; i-- { hook := r.hooks[i] hook(r) }",
      "close(r.done)"] := by
  refine ⟨rfl, rfl, rfl, rfl, rfl, rfl, rfl, rfl, rfl, rfl⟩

end SamVerif.Props.C20

#print axioms SamVerif.Props.C20.conn_conserved
#print axioms SamVerif.Props.C20.gauges_never_negative
#print axioms SamVerif.Props.C20.conn_quiescent_balanced
#print axioms SamVerif.Props.C20.stop_clears_registry
#print axioms SamVerif.Props.C20.stopped_stays_empty
#print axioms SamVerif.Props.C20.limit_respected
#print axioms SamVerif.Props.C20.stop_without_settling_breaks_conservation
#print axioms SamVerif.Props.C20.req_conserved
#print axioms SamVerif.Props.C20.req_quiescent_balanced
#print axioms SamVerif.Props.C20.script_quiescent
#print axioms SamVerif.Props.C20.code_moves_match_model
