/-
C08 — running services converge to the configured services and endpoints.

`Conf.*` models the three update handlers of config/config.go (events emitted) and the
controller's event handling, both as repaired (4703615, 8aac5e2, 48e428b). Tied by the
differential run through the real handlers into the real controller with a recording builder.
-/
import SamVerif.Proofs.Conf
import SamVerif.Gen.Conf
import SamVerif.Model.HcReset
namespace SamVerif.Props.C08
open SamVerif.Conf SamVerif.Proofs.Conf

/-- discovery updates, and the controller taking `k` pending events -/
inductive Op where
  | depAdd (n : Nat)
  | depRemove (n : Nat)
  | cfg (n : Nat) (c : Cfg)
  | eps (n : Nat) (added removed : List Nat)
  | consume (k : Nat)

structure Sys where
  store : Store
  queue : List Event      -- emitted, not yet handled by the controller (the event channel)
  procs : Procs

def Sys.init : Sys := { store := fun _ => none, queue := [], procs := fun _ => none }

def step (y : Sys) : Op → Sys
  | .depAdd n => let r := depAdd y.store n; { y with store := r.1, queue := y.queue ++ r.2 }
  | .depRemove n => let r := depRemove y.store n; { y with store := r.1, queue := y.queue ++ r.2 }
  | .cfg n c => let r := cfgUpdate y.store n c; { y with store := r.1, queue := y.queue ++ r.2 }
  | .eps n a r' => let r := epsUpdate y.store n a r'; { y with store := r.1, queue := y.queue ++ r.2 }
  | .consume k => { y with procs := drain y.procs (y.queue.take k), queue := y.queue.drop k }

def run (y : Sys) (ops : List Op) : Sys := ops.foldl step y

/-- the invariant relates the store to the processors *as they will be once the pending events
are handled*; it holds after every history, whatever the relative speed of store and controller -/
theorem inv_run (ops : List Op) (y : Sys) (h : Inv y.store (drain y.procs y.queue)) :
    Inv (run y ops).store (drain (run y ops).procs (run y ops).queue) := by
  refine List.foldlRecOn (motive := fun y => Inv y.store (drain y.procs y.queue)) ops step h fun y h op _ => ?_
  -- a handler's events go to the back of the queue: `drain` over an append is `drain` twice
  cases op <;> simp only [step.eq_def, drain, List.foldl_append]
  · exact inv_depAdd _ _ _ h
  · exact inv_depRemove _ _ _ h
  · exact inv_cfgUpdate _ _ _ _ h
  · exact inv_epsUpdate _ _ _ _ _ h
  · -- the controller's progress moves events from the queue into the processors: nothing changes once drained
    rw [← List.foldl_append, List.take_append_drop]; exact h

theorem good_run (ops : List Op) (n : Nat) :
    Good ((run Sys.init ops).store n) (drain (run Sys.init ops).procs (run Sys.init ops).queue n) :=
  inv_run ops Sys.init inv_init n

/-- **Convergence.** After any history of dependency, configuration and endpoint updates,
interleaved in any way with the controller's progress, once the pending events are handled:
a service with a valid latest configuration and a known endpoint list has exactly one
processor, with that configuration and exactly that host set; … -/
theorem converges_valid (ops : List Op) (n : Nat) (c : Cfg) (e : List Nat)
    (hs : (run Sys.init ops).store n = some { cfg := some c, eps := some e }) (hv : c.valid = true) :
    ∃ pr, drain (run Sys.init ops).procs (run Sys.init ops).queue n = some pr ∧ pr.cfg = c ∧
      ∀ x, x ∈ pr.hosts ↔ x ∈ e := by
  have h := good_run ops n
  rw [hs] at h
  exact (if_pos hv).mp h.2

/-- … and a service that is not a dependency (never added, or removed), or whose configuration
or endpoint list is not known yet, has none. Updates for unknown services are ignored. -/
theorem converges_none (ops : List Op) (n : Nat)
    (hs : (run Sys.init ops).store n = none ∨
          (∃ sv, (run Sys.init ops).store n = some sv ∧ (sv.cfg = none ∨ sv.eps = none))) :
    drain (run Sys.init ops).procs (run Sys.init ops).queue n = none := by
  have h := good_run ops n
  rcases hs with hs | ⟨sv, hs, hcase⟩ <;> rw [hs] at h
  · exact h
  · exact h.eq_none hcase

/-- F-08d (recorded finding, not repaired): when the latest configuration is invalid the
processor created under an earlier valid configuration keeps running. The invariant allows
exactly that and nothing else: no processor, or one with a valid configuration and the right
hosts. -/
theorem latest_invalid_partial (ops : List Op) (n : Nat) (c : Cfg) (e : List Nat)
    (hs : (run Sys.init ops).store n = some { cfg := some c, eps := some e }) (hv : c.valid = false) :
    drain (run Sys.init ops).procs (run Sys.init ops).queue n = none ∨
    ∃ pr, drain (run Sys.init ops).procs (run Sys.init ops).queue n = some pr ∧ pr.cfg.valid = true ∧
      ∀ x, x ∈ pr.hosts ↔ x ∈ e := by
  have h := good_run ops n
  rw [hs] at h
  exact (if_neg (ne_true_of_eq_false hv)).mp h.2

/-- the witness of F-08d in the model: valid configuration, endpoints, then an invalid one -/
theorem latest_invalid_counterexample :
    (drain (run Sys.init [.depAdd 1, .cfg 1 ⟨1, true⟩, .eps 1 [1] [], .cfg 1 ⟨2, false⟩]).procs
      (run Sys.init [.depAdd 1, .cfg 1 ⟨1, true⟩, .eps 1 [1] [], .cfg 1 ⟨2, false⟩]).queue 1).map (·.cfg.id) = some 1 := by
  decide

/-- F-08a, the behaviour before the repair: additions applied before removals lose an address
that is in both lists of one update. -/
theorem old_order_counterexample :
    (applyOld (fun n => if n = 1 then some ⟨⟨1, true⟩, [1, 2]⟩ else none) (.endpoints 1 [1] [1]) 1).map (·.hosts) = some [2] ∧
    (apply (fun n => if n = 1 then some ⟨⟨1, true⟩, [1, 2]⟩ else none) (.endpoints 1 [1] [1]) 1).map (·.hosts) = some [2, 1] := by
  decide

/-- the three repaired shapes converge -/
example : ((run Sys.init [.depAdd 1, .cfg 1 ⟨1, false⟩, .eps 1 [1] [], .cfg 1 ⟨2, true⟩, .consume 9]).procs 1).map
    (fun p => (p.cfg.id, p.hosts)) = some (2, [1]) := by decide
example : ((run Sys.init [.depAdd 1, .cfg 1 ⟨1, true⟩, .eps 1 [] [9], .eps 1 [1] [], .consume 9]).procs 1).map
    (fun p => (p.cfg.id, p.hosts)) = some (1, [1]) := by decide

/-- **The code the model was written against.** The statements of the modelled functions,
regenerated from the current source on every run, are the ones the model was written against;
any edit to one of them makes this obligation fail and starts a search for a failing input. -/
theorem code_matches_model :
    Gen.Conf.handleDependencyUpdate =
      ["c.Lock()",
      "defer c.Unlock()",
      "for _, svc := range added { sw, ok := c.sws[svc.Name] if ok { continue } sw = &serviceWrapper{Service: svc} c.sws[svc.Name] = sw }",
      "for _, svc := range removed { sw, ok := c.sws[svc.Name] if !ok { continue } delete(c.sws, svc.Name) c.emitSvcRemoveEvent(sw) }"] ∧
    Gen.Conf.handleSvcConfigUpdate =
      ["c.Lock()",
      "defer c.Unlock()",
      "sw, ok := c.sws[svcName]",
      "if !ok { return }",
      "if newCfg == nil { return }",
      "oldCfg := sw.Config",
      "sw.Config = newCfg",
      "if sw.Endpoints == nil { return }",
      "if oldCfg != nil { c.emitSvcConfigEvent(svcName, newCfg) }",
      "c.emitSvcAddEvent(sw)"] ∧
    Gen.Conf.handleSvcEndpointUpdate =
      ["c.Lock()",
      "defer c.Unlock()",
      "added, removed = withAddress(added), withAddress(removed)",
      "if len(added) == 0 && len(removed) == 0 { return }",
      "sw, ok := c.sws[svcName]",
      "if !ok { return }",
      "oldEndpoints := sw.Endpoints",
      "validRemoved := make([]*service.Endpoint, 0, len(removed))",
      "for _, endpoint := range removed { i, ok := isContainEndpoint(sw.Endpoints, endpoint) if !ok { continue } sw.Endpoints = append(sw.Endpoints[:i], sw.Endpoints[i+1:]...) validRemoved = append(validRemoved, endpoint) }",
      "validAdded := make([]*service.Endpoint, 0, len(added))",
      "for _, endpoint := range added { i, ok := isContainEndpoint(sw.Endpoints, endpoint) if ok { if !sw.Endpoints[i].Equal(endpoint) { sw.Endpoints[i] = endpoint validAdded = append(validAdded, endpoint) } continue } sw.Endpoints = append(sw.Endpoints, endpoint) validAdded = append(validAdded, endpoint) }",
      "if sw.Config == nil || sw.Endpoints == nil { return }",
      "switch oldEndpoints { case nil: c.emitSvcAddEvent(sw) default: c.emitSvcEndpointEvent(svcName, validAdded, validRemoved) }"] ∧
    Gen.Conf.isContainEndpoint =
      ["for i := 0; i < len(endpoints); i++ { if !endpoints[i].Address.Equal(endpoint.Address) { continue } return i, true }",
      "return 0, false"] ∧
    Gen.Conf.emitSvcAddEvent =
      ["endpoints := sw.Endpoints",
      "if endpoints != nil { endpoints = append(make([]*service.Endpoint, 0, len(endpoints)), endpoints...) }",
      "evt := &SvcAddEvent{ Name: sw.Service.Name, Config: sw.Config, Endpoints: endpoints, }",
      "c.evtCh <- evt"] ∧
    Gen.Conf.emitSvcEndpointEvent =
      ["if len(added) == 0 && len(removed) == 0 { return }",
      "evt := &SvcEndpointEvent{ Name: svcName, Added: added, Removed: removed, }",
      "c.evtCh <- evt"] ∧
    Gen.Conf.handleEvent =
      ["switch evt := evt.(type) { case *config.SvcAddEvent: c.handleSvcAdd(evt.Name, evt.Config, evt.Endpoints) case *config.SvcRemoveEvent: c.handleSvcDel(evt.Name) case *config.SvcConfigEvent: c.handleSvcConfigUpdate(evt.Name, evt.Config) case *config.SvcEndpointEvent: c.handleSvcEndpointsRemove(evt.Name, evt.Removed) c.handleSvcEndpointsAdd(evt.Name, evt.Added) default: logger.Warnf(\"unkown event: %v\", evt) }"] ∧
    Gen.Conf.handleSvcAdd =
      ["if _, ok := c.getProc(svcName); ok { return }",
      "c.tryEnsureProc(svcName, cfg, endpointsToHosts(endpoints))"] ∧
    Gen.Conf.handleSvcDel =
      ["if p, ok := c.getProc(svcName); ok { p.Stop() c.removeProc(p) }"] ∧
    Gen.Conf.tryEnsureProc =
      ["if svcName == \"\" { logger.Debugf(\"empty service name\") return }",
      "if err := cfg.Validate(); cfg == nil || err != nil { logger.Debugf(\"invalid config\") return }",
      "proc, err := newProc(svcName, cfg, hosts)",
      "if err != nil { logger.Warnf(\"Create processor %s failed: %v\", svcName, err) return }",
      "if err := proc.Start(); err != nil { logger.Warnf(\"Start processor %s failed: %v\", svcName, err) return }",
      "c.addProc(proc)",
      "return proc"] ∧
    Gen.Conf.handleSvcEndpointsAdd =
      ["if len(endpoints) == 0 { return }",
      "procName := svcName",
      "p, ok := c.getProc(procName)",
      "if !ok { logger.Warnf(\"failed to get proc of service when add endpoints: %s\", svcName) return }",
      "hosts := endpointsToHosts(endpoints)",
      "p.OnSvcHostAdd(hosts)",
      "logger.Infof(\"Add hosts %v to processor %s\", hosts, procName)"] ∧
    Gen.Conf.handleSvcEndpointsRemove =
      ["if len(endpoints) == 0 { return }",
      "procName := svcName",
      "p, ok := c.getProc(procName)",
      "if !ok { logger.Warnf(\"failed to get proc of service when remove endpoints: %s\", svcName) return }",
      "hosts := endpointsToHosts(endpoints)",
      "p.OnSvcHostRemove(hosts)",
      "logger.Infof(\"Remove hosts %v from processor %s\", hosts, procName)"] ∧
    Gen.Conf.ctlHandleSvcConfigUpdate =
      ["proc, ok := c.getProc(svcName)",
      "if !ok { logger.Warnf(\"failed to get proc of service when update config: %s\", svcName) return }",
      "if err := proc.OnSvcConfigUpdate(newCfg); err != nil { logger.Warnf(\"failed to update svc config: %v\", err) }"] := by
  refine ⟨rfl, rfl, rfl, rfl, rfl, rfl, rfl, rfl, rfl, rfl, rfl, rfl, rfl⟩

/-- **The code the model was written against.** The statements of the modelled functions,
regenerated from the current source on every run, are the ones the model was written against;
any edit to one of them makes this obligation fail and starts a search for a failing input. -/
theorem proc_config_update_matches_model :
    Gen.Conf.tcpOnSvcConfigUpdate =
      ["if newHC := c.GetHealthCheck(); !p.cfg.GetHealthCheck().Equal(newHC) { var err error if p.hm == nil { p.hm, err = hc.NewMonitor(newHC, p.hostSet, p.Logger) if err == nil { p.hm.Start() } } else if newHC == nil { p.hm.Stop() p.hm = nil for _, h := range p.hostSet.All() { p.hostSet.MarkHostHealthy(h) } } else { err = p.hm.ResetHealthCheck(newHC) } if err != nil { return err } }",
      "if newPolicy := c.GetLbPolicy(); p.cfg.GetLbPolicy() != newPolicy { p.lb = lb.New(newPolicy) }",
      "if !p.cfg.Equal(c) { p.cfg = c }",
      "return nil"] ∧
    Gen.Conf.resetHealthCheck =
      ["if m == nil { return nil }",
      "if err := config.Validate(); err != nil { return err }",
      "sameChecker := config.Checker == nil && m.config.Checker == nil || config.Checker != nil && config.Checker.Equal(m.config.Checker)",
      "if !sameChecker { checker, err := newChecker(config) if err != nil { return err } m.checker = checker }",
      "m.config = config",
      "m.strategyUpdateCh <- struct{}{}",
      "return nil"] ∧
    Gen.Conf.newMonitor =
      ["if logger == nil { logger = loggerpkg.Get() }",
      "if config == nil { logger.Infof(\"health check config is null, healthy check will be disabled\") return nil, nil }",
      "if err := config.Validate(); err != nil { logger.Infof(\"invalid health check config: %v, will use default\", err) config = defaultConfig }",
      "checker, err := newChecker(config)",
      "if err != nil { return nil, err }",
      "ctx, cancel := context.WithCancel(context.Background())",
      "m := &Monitor{ logger: logger, ctx: ctx, cancel: cancel, done: make(chan struct{}), config: config, strategyUpdateCh: make(chan struct{}, 1), checker: checker, hostSet: hostSet, }",
      "return m, nil"] ∧
    Gen.Conf.decodePayload =
      ["if len(b) == 0 { return \"\", ErrPayloadEmpty }",
      "var isHexData = b[0] == 'b'",
      "if !isHexData { return strconv.Unquote(string(b)) }",
      "var err error",
      "var rawData = string(b[1:])",
      "if rawData, err = strconv.Unquote(rawData); err != nil { return \"\", err }",
      "var payload []byte",
      "payload, err = hex.DecodeString(rawData)",
      "if err != nil { return \"\", err }",
      "return string(payload), err"] := by
  refine ⟨rfl, rfl, rfl, rfl⟩

end SamVerif.Props.C08

namespace SamVerif.Props.C08h
open SamVerif.HcReset

/-- **An update of the health check is applied whole or not at all, and never crashes** (F-08g, F-08i): a rejected update leaves the
section in force *and the checker in use* as they were; an accepted one puts the new section in force with the checker it asks for. -/
theorem reset_all_or_nothing (m : Mon) (new : Section) (h : Consistent m) :
    (reset m new).2 ≠ .panic ∧
    ((reset m new).2 = .error → (reset m new).1 = m) ∧
    ((reset m new).2 = .ok → (reset m new).1.cfg = new ∧ Consistent (reset m new).1) := by
  fun_cases reset m new
  · exact ⟨nofun, fun _ => rfl, nofun⟩
  · -- the same checker is asked for: the one in use stays, and is still the one asked for
    next hc => exact ⟨nofun, nofun, fun _ => ⟨rfl, h.trans (congrArg (·.getD .tcp) hc.symm)⟩⟩
  · exact ⟨nofun, fun _ => rfl, nofun⟩
  · exact ⟨nofun, nofun, fun _ => ⟨rfl, rfl⟩⟩

/-- before 14b5f8c: a section without a checker could not be updated at all -/
theorem old_update_without_checker_panics (m : Mon) (new : Section) (hv : new.valid = true) (hn : new.checker = none) :
    (resetOld m new).2 = .panic := by
  simp [resetOld, hv, hn]

/-- before b695112: a rejected update left a checker in use that no section asks for -/
theorem old_rejected_update_swaps_the_checker :
    let m : Mon := { cfg := { interval := 20, checker := some .redis }, inUse := .redis }
    let new : Section := { interval := 20, checker := some .atcp, buildable := false }
    (resetOld m new).2 = .error ∧ (resetOld m new).1.cfg = m.cfg ∧ (resetOld m new).1.inUse = .tcp ∧ ¬ Consistent (resetOld m new).1 := by
  simp [Consistent, kindOf, resetOld]

end SamVerif.Props.C08h

#print axioms SamVerif.Props.C08.inv_run
#print axioms SamVerif.Props.C08.converges_valid
#print axioms SamVerif.Props.C08.converges_none
#print axioms SamVerif.Props.C08.latest_invalid_partial
#print axioms SamVerif.Props.C08.latest_invalid_counterexample
#print axioms SamVerif.Props.C08.old_order_counterexample
#print axioms SamVerif.Props.C08.code_matches_model
#print axioms SamVerif.Props.C08.proc_config_update_matches_model
#print axioms SamVerif.Props.C08h.reset_all_or_nothing
#print axioms SamVerif.Props.C08h.old_update_without_checker_panics
#print axioms SamVerif.Props.C08h.old_rejected_update_swaps_the_checker
