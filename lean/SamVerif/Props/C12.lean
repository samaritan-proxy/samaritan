/-
C12 — key → slot equals the Redis Cluster specification.

`Gen.Crc.*` is regenerated from /repo's source on every run (table, `crc16`,
`hashtag`, the slot mask in `chooseHost`); `Spec.Crc.*` is the bitwise
CRC16/XMODEM and the hash-tag rule of the Redis Cluster specification.
Every theorem is for all keys (any bytes, any length).
-/
import SamVerif.Proofs.Crc
import SamVerif.Proofs.Hashtag
namespace SamVerif.Props.C12
open SamVerif

/-- The proxy's table-driven CRC equals bitwise CRC16/XMODEM for every key. -/
theorem crc16_eq_spec (key : List UInt8) : Gen.Crc.crc16 key = Spec.Crc.crc key := by
  simp only [Gen.Crc.crc16, Spec.Crc.crc, Proofs.Crc.step_eq]

/-- The proxy's hash tag is the specification's hash tag for every key and every
placement of `{` and `}`. -/
theorem hashtag_eq_spec (key : List UInt8) : Gen.Crc.hashtag key = Spec.Crc.hashtag key := by
  unfold Gen.Crc.hashtag Spec.Crc.hashtag
  have e1 : (123#8 : BitVec 8) = (0x7b : UInt8).toBitVec := rfl
  have e2 : (125#8 : BitVec 8) = (0x7d : UInt8).toBitVec := rfl
  simp only [e1, e2, Proofs.Hashtag.scan_eq key 0x7b 0 (Nat.zero_le _), List.drop_zero, Nat.zero_add,
    List.dropWhile_eq_drop_findIdx_not, List.takeWhile_eq_take_findIdx_not, bne, Bool.not_not]
  -- `i`: where the first `{` is, or the length of the key
  generalize hi : key.findIdx (· == 0x7b) = i
  have hle : i ≤ key.length := hi ▸ List.findIdx_le_length
  by_cases hin : i = key.length
  · simp [hin]
  have hlt : i < key.length := Nat.lt_of_le_of_ne hle hin
  rw [List.drop_eq_getElem_cons hlt, Proofs.Hashtag.scan_eq key 0x7d (i + 1) hlt]
  simp only [hin, beq_iff_eq, Bool.or_eq_true, if_false]
  generalize hrest : key.drop (i+1) = rest
  have hkl : key.length = i + 1 + rest.length := by rw [← hrest, List.length_drop, Nat.add_sub_cancel' hlt]
  generalize hn : rest.findIdx (· == 0x7d) = n
  have hnl : n ≤ rest.length := hn ▸ List.findIdx_le_length
  rw [Proofs.Hashtag.slice_drop_take, hrest]
  -- the loop's two exit tests, on indices, are the specification's two tests, on lists
  simp only [hkl, Nat.add_left_cancel_iff, Nat.add_eq_left, ← List.length_eq_zero_iff, List.length_take,
    Nat.min_eq_left hnl]
  by_cases c1 : n = rest.length <;> simp [c1]

/-- `hash & (slotNum-1)` is reduction modulo 16384. -/
theorem slot_eq_spec (key : List UInt8) : Gen.Crc.slotOf key = Spec.Crc.slot key := by
  unfold Gen.Crc.slotOf Spec.Crc.slot
  rw [crc16_eq_spec, hashtag_eq_spec]
  exact Nat.and_two_pow_sub_one_eq_mod _ 14

/-- The slot is always a valid index of the 16384-entry routing table. -/
theorem slot_lt (key : List UInt8) : Gen.Crc.slotOf key < Gen.Crc.slotNum := by
  rw [slot_eq_spec]; exact Nat.mod_lt _ (by decide)

/-- Keys that share a hash tag are routed by the same slot. -/
theorem same_tag_same_slot (k1 k2 : List UInt8)
    (h : Spec.Crc.hashtag k1 = Spec.Crc.hashtag k2) : Gen.Crc.slotOf k1 = Gen.Crc.slotOf k2 := by
  rw [slot_eq_spec, slot_eq_spec]; unfold Spec.Crc.slot; rw [h]

/-- A key `prefix{tag}suffix` with a non-empty tag free of `{`/`}` in its prefix
and tag is routed exactly like the bare tag. -/
theorem tagged_key_routes_as_tag (pre tag suf : List UInt8)
    (hpre : ∀ x ∈ pre, x ≠ 0x7b) (htag : ∀ x ∈ tag, x ≠ 0x7d) (hne : tag ≠ []) :
    Gen.Crc.slotOf (pre ++ [0x7b] ++ tag ++ [0x7d] ++ suf) = (Spec.Crc.crc tag).toNat % 16384 := by
  rw [slot_eq_spec, Spec.Crc.slot, Proofs.Hashtag.hashtag_tagged pre tag suf hpre htag hne]

/-- The standard check value of CRC16/XMODEM: "123456789" ↦ 0x31C3. -/
example : Gen.Crc.crc16 [0x31,0x32,0x33,0x34,0x35,0x36,0x37,0x38,0x39] = 0x31c3#16 := by decide +kernel
example : Spec.Crc.crc [0x31,0x32,0x33,0x34,0x35,0x36,0x37,0x38,0x39] = 0x31c3#16 := by decide +kernel
/-- "foo{bar}baz" has tag "bar"; "{}x" and "a{b" are their own tags. -/
example : Gen.Crc.hashtag [0x66,0x6f,0x6f,0x7b,0x62,0x61,0x72,0x7d,0x62,0x61,0x7a] = [0x62,0x61,0x72] := by rw [hashtag_eq_spec]; decide
example : Gen.Crc.hashtag [0x7b,0x7d,0x78] = [0x7b,0x7d,0x78] := by rw [hashtag_eq_spec]; decide
example : Gen.Crc.hashtag [0x61,0x7b,0x62] = [0x61,0x7b,0x62] := by rw [hashtag_eq_spec]; decide
/-- first `{`, first `}` after it: "{a}{b}" ↦ "a";  "}{a}" ↦ "a";  "{{a}}" ↦ "{a" -/
example : Spec.Crc.hashtag [0x7b,0x61,0x7d,0x7b,0x62,0x7d] = [0x61] := by decide
example : Spec.Crc.hashtag [0x7d,0x7b,0x61,0x7d] = [0x61] := by decide
example : Spec.Crc.hashtag [0x7b,0x7b,0x61,0x7d,0x7d] = [0x7b,0x61] := by decide

end SamVerif.Props.C12

#print axioms SamVerif.Props.C12.crc16_eq_spec
#print axioms SamVerif.Props.C12.hashtag_eq_spec
#print axioms SamVerif.Props.C12.slot_eq_spec
#print axioms SamVerif.Props.C12.slot_lt
#print axioms SamVerif.Props.C12.same_tag_same_slot
#print axioms SamVerif.Props.C12.tagged_key_routes_as_tag
